-- Root of the `TinyFlux` library: the eighteen audits import every property module and, through them, everything
-- else, so `lake build` builds and checks the whole development. Drivers live in Driver/.
import TinyFlux.Audit.C01
import TinyFlux.Audit.C02
import TinyFlux.Audit.C03
import TinyFlux.Audit.C04
import TinyFlux.Audit.C05
import TinyFlux.Audit.C06
import TinyFlux.Audit.C07
import TinyFlux.Audit.C08
import TinyFlux.Audit.C09
import TinyFlux.Audit.C10
import TinyFlux.Audit.C11
import TinyFlux.Audit.C12
import TinyFlux.Audit.C13
import TinyFlux.Audit.C14
import TinyFlux.Audit.C15
import TinyFlux.Audit.C16
import TinyFlux.Audit.C17
import TinyFlux.Audit.C18
