import TinyFlux.Mirror.Scan
import TinyFlux.Mirror.Getters
/-!
`__len__`, the exploration getters and `all` of `TinyFlux`: with a valid index a getter calls the *translated* getter of the
index (and sorts), otherwise it scans storage with the measurement filter. The `model…` functions are what `State.step`
answers (`model_getters_are_step`). Hypotheses: a dict-shaped index (`GWF`; `get_tag_keys` also `TagsNE`, `get_field_values`
dict-shaped stored rows) and a measurement argument other than `""` (recorded finding `empty-measurement-name`).
-/
namespace TinyFlux.Mirror
open TinyFlux.Model TinyFlux.Spec TinyFlux.Py.Typed
open TinyFlux.Generated

def modelLen (s : State) : Nat := if s.cfg.autoIndex && s.index.valid then s.index.numItems else s.storage.length

def modelMeasurements (s : State) : List String :=
  sortStr (if s.index.valid then s.index.getMeasurements else dedup (s.storage.map (·.meas)))
def modelFieldKeys (s : State) (m : Option String) : List String :=
  sortStr (if s.index.valid then s.index.getFieldKeys (effMeas m)
           else dedup ((State.restrictM s.storage m).flatMap (fun p => p.fields.map (·.1))))
def modelTagKeys (s : State) (m : Option String) : List String :=
  sortStr (if s.index.valid then s.index.getTagKeys (effMeas m)
           else dedup ((State.restrictM s.storage m).flatMap (fun p => p.tags.map (·.1))))
def modelFieldValues (s : State) (k : String) (m : Option String) : List (Option Num) :=
  if s.index.valid then s.index.getFieldValues k (effMeas m)
  else (State.restrictM s.storage m).filterMap (fun p => p.fields.lookup k)
def modelTimestamps (s : State) (m : Option String) : List Int :=
  if s.index.valid then s.index.getTimestamps (effMeas m) else (State.restrictM s.storage m).map (·.time)

namespace DbG

/-- a getter's scan: `for item in self._storage:` with the measurement test, then a pure step `f` -/
theorem scan_fold {β : Type} (st : Storage) (m : Option String) (body : β → Point → M β) (f : β → Point → β)
    (hb : ∀ acc p, body acc p =
      if (truthy m && !pyEq (Storage._deserialize_measurement st p) m) = true then pure acc else pure (f acc p))
    (l : List Point) :
    ∀ acc, List.foldlM body acc l = .ok ((State.restrictM l m).foldl f acc) := by
  intro acc
  rw [restrictM_filter, List.foldl_filter]
  refine foldlM_ok body _ (fun acc p => ?_) l acc
  rw [hb]
  show (if (truthy m && !pyEq p.meas m) = true then _ else _) = _
  cases (truthy m && !pyEq p.meas m) <;> rfl

theorem sort_foldl_setAdd (l : List String) : sortStr (l.foldl setAdd []) = sortStr (dedup l) := by
  obtain ⟨h1, h2⟩ := foldl_setAdd l [] List.nodup_nil
  apply sortStr_congr _ _ h1 (nodup_dedup l)
  intro x
  rw [h2, mem_dedup]
  simp

/-- the scan path of `get_field_keys` / `get_tag_keys` -/
theorem scan_keys (st : Storage) (m : Option String) (kf : Point → List String) (body : List String → Point → M (List String))
    (hb : ∀ acc p, body acc p =
      if (truthy m && !pyEq (Storage._deserialize_measurement st p) m) = true then pure acc
      else List.foldlM (fun rst k => pure (setAdd rst k)) acc (kf p))
    (l : List Point) :
    (List.foldlM body [] l >>= fun rst => pure (sortedStr rst))
      = .ok (sortStr (dedup ((State.restrictM l m).flatMap kf))) := by
  rw [scan_fold st m body (fun acc p => (kf p).foldl setAdd acc), ← List.foldl_flatMap]
  · simp only [bind, Except.bind, pure, Except.pure, sortedStr, sort_foldl_setAdd]
  · intro acc p
    rw [hb, foldlM_ok (fun rst k => pure (setAdd rst k)) setAdd (fun _ _ => rfl)]
    rfl

theorem flatMap_toList_filterMap {α β : Type} (f : α → List β) (o : α → Option β) (l : List α)
    (h : ∀ p ∈ l, f p = (o p).toList) : l.flatMap f = l.filterMap o := by
  induction l with
  | nil => rfl
  | cons a t ih =>
    rw [List.flatMap_cons, h a (List.mem_cons_self ..), ih (fun p hp => h p (List.mem_cons_of_mem _ hp)),
      List.filterMap_cons]
    cases o a <;> rfl

theorem foldl_filter_key (k : String) (fs : List (String × Option Num)) : ∀ acc : List (Option Num),
    fs.foldl (fun rst kv => if (kv.1 == k) = true then rst ++ [kv.2] else rst) acc
      = acc ++ (fs.filter (fun kv => kv.1 == k)).map (·.2) := by
  induction fs with
  | nil => intro acc; simp
  | cons a t ih =>
    intro acc
    by_cases hk : (a.1 == k) = true
    · simp only [List.foldl_cons, hk, ↓reduceIte, ih, List.filter_cons, List.map_cons, List.append_assoc,
        List.singleton_append]
    · simp only [List.foldl_cons, hk, ↓reduceIte, ih, List.filter_cons, Bool.false_eq_true]

theorem truthy_bool (b : Bool) : truthy b = b := rfl

end DbG
open DbG

theorem len_ok (norm : Point → Point) (g : DSelf) :
    DatabaseImpl.__len__ g = .ok (modelLen (absDB norm g)) := by
  unfold DatabaseImpl.__len__ modelLen
  simp only [IndexImpl.valid, IndexImpl.__len__, Storage.__len__, truthy, absDB, abs, bind, Except.bind, pure, Except.pure, id]
  by_cases h1 : g._auto_index = true
  · by_cases h2 : g._index._valid = true <;> simp [h1, h2]
  · simp [h1]

theorem model_getters_are_step (s : State) (k : String) (m : Option String) :
    (s.step .len).2 = .nat (modelLen s)
    ∧ (s.step .getMeasurements).2 = .strs (modelMeasurements s.readOp)
    ∧ (s.step (.getFieldKeys m)).2 = .strs (modelFieldKeys s.readOp m)
    ∧ (s.step (.getTagKeys m)).2 = .strs (modelTagKeys s.readOp m)
    ∧ (s.step (.getFieldValues k m)).2 = .nums (modelFieldValues s.readOp k m)
    ∧ (s.step (.getTimestamps m)).2 = .times (modelTimestamps s.readOp m) := by
  refine ⟨rfl, rfl, rfl, rfl, rfl, rfl⟩

/-- `if self._index.valid:` ask the index, else scan: what every getter starts with -/
theorem valid_dispatch {α : Type} (g : DSelf) (A B : M α) (a b : α) (hA : A = .ok a) (hB : B = .ok b) :
    (do if (truthy (← IndexImpl.valid g._index)) then A else B) = .ok (if g._index._valid = true then a else b) := by
  subst hA hB
  show (if truthy g._index._valid = true then _ else _) = _
  cases g._index._valid <;> rfl

theorem db_get_timestamps_ok (norm : Point → Point) (g : DSelf) (hg : GWF g._index) (m : Option String) (hm : m ≠ some "") :
    (DatabaseImpl.get_timestamps g m).map (fun l => l.map (·.us)) = .ok (modelTimestamps (absDB norm g) m) := by
  unfold modelTimestamps
  rw [effMeas_of_ne m hm]
  have h : DatabaseImpl.get_timestamps g m = .ok (if g._index._valid = true
      then ((abs g._index).getTimestamps m).map fromtimestamp
      else (State.restrictM g._storage._items m).map timeOf) := by
    refine valid_dispatch g _ _ _ _ ?_ ?_
    · rw [get_timestamps_ok g._index hg m hm]; rfl
    · refine (scan_fold g._storage m _ (fun acc p => acc ++ [timeOf p]) (fun _ _ => rfl) _ []).trans ?_
      rw [List.foldl_append_eq_append, ← List.flatMap_def, ← List.map_eq_flatMap, List.nil_append]
      rfl
  rw [h]
  show Except.ok (List.map _ (if g._index._valid = true then _ else _)) = _
  rw [apply_ite (List.map _), List.map_map, List.map_map]
  have : ((fun x : DateTime => x.us) ∘ fromtimestamp) = id := rfl
  rw [this, List.map_id]
  rfl

/-- stored points are dict-shaped (`WFPoint`: a Python dict has each key once), so a point contributes at most one value -/
theorem db_get_field_values_ok (norm : Point → Point) (g : DSelf) (hg : GWF g._index)
    (hwf : ∀ p ∈ g._storage._items, WFPoint p) (k : String) (m : Option String) (hm : m ≠ some "") :
    DatabaseImpl.get_field_values g k m = .ok (modelFieldValues (absDB norm g) k m) := by
  unfold modelFieldValues
  rw [effMeas_of_ne m hm]
  refine valid_dispatch g _ _ _ _ (get_field_values_ok g._index hg k m hm) ?_
  rw [scan_fold g._storage m _ (fun acc p => acc ++ (p.fields.filter (fun kv => kv.1 == k)).map (·.2))]
  · rw [List.foldl_append_eq_append, ← List.flatMap_def, List.nil_append]
    congr 1
    apply flatMap_toList_filterMap
    intro p hp
    have : p ∈ g._storage._items := by
      rw [restrictM_filter] at hp
      exact (List.mem_filter.1 hp).1
    rw [filter_key_lookup p.fields (hwf p this).2 k]
    cases p.fields.lookup k <;> rfl
  · intro acc p
    simp only [Storage._deserialize_storage_item, items]
    rw [foldlM_ok _ (fun (rst : List (Option Num)) (kv : String × Option Num) => if kv.1 == k then rst ++ [kv.2] else rst)]
    · rw [foldl_filter_key]; rfl
    · intro acc kv
      simp only [Py.Typed.append]
      by_cases hk : (kv.1 == k) = true <;> simp [hk, pure, Except.pure]

theorem db_get_measurements_ok (norm : Point → Point) (g : DSelf) (hg : GWF g._index) :
    DatabaseImpl.get_measurements g = .ok (modelMeasurements (absDB norm g)) := by
  unfold modelMeasurements
  rw [apply_ite sortStr]
  refine valid_dispatch g _ _ _ _ ?_ ?_
  · rw [get_measurements_ok g._index hg]; rfl
  · show (List.foldlM _ [] g._storage._items >>= fun names => pure (sortedStr names)) = _
    rw [foldlM_ok (g := fun (names : List String) (p : Point) => setAdd names p.meas)]
    · show Except.ok (sortStr _) = _
      rw [← sort_foldl_setAdd, List.foldl_map]
      rfl
    · intro _ _; rfl

theorem db_get_field_keys_ok (norm : Point → Point) (g : DSelf) (hg : GWF g._index) (m : Option String) (hm : m ≠ some "") :
    DatabaseImpl.get_field_keys g m = .ok (modelFieldKeys (absDB norm g) m) := by
  unfold modelFieldKeys
  rw [effMeas_of_ne m hm, apply_ite sortStr]
  refine valid_dispatch g _ _ _ _ ?_ (scan_keys g._storage m (fun p => keysAL p.fields) _ (fun _ _ => rfl) _)
  rw [get_field_keys_ok g._index hg m hm]; rfl

theorem db_get_tag_keys_ok (norm : Point → Point) (g : DSelf) (hg : GWF g._index) (hne : TagsNE g._index._tags)
    (m : Option String) (hm : m ≠ some "") :
    DatabaseImpl.get_tag_keys g m = .ok (modelTagKeys (absDB norm g) m) := by
  unfold modelTagKeys
  rw [effMeas_of_ne m hm, apply_ite sortStr]
  refine valid_dispatch g _ _ _ _ ?_ (scan_keys g._storage m (fun p => keysAL p.tags) _ (fun _ _ => rfl) _)
  rw [get_tag_keys_ok g._index hg hne m hm]; rfl

/-- the `read_op` decorator is `readOp`, which does not touch storage -/
theorem all_ok (norm : Point → Point) (g : DSelf) (sorted : Bool) :
    DatabaseImpl.all g sorted = .ok (if sorted then State.sortByTime g._storage._items else g._storage._items)
    ∧ ((absDB norm g).step (.all sorted)).2
        = .points (if sorted then State.sortByTime g._storage._items else g._storage._items) := by
  have hst : ((absDB norm g).readOp).storage = g._storage._items := by
    unfold State.readOp
    split <;> rfl
  constructor
  · cases sorted <;> rfl
  · simp only [State.step, hst]

end TinyFlux.Mirror
