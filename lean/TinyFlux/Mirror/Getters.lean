import TinyFlux.Mirror.Tags
import TinyFlux.Lemmas.Getters
/-!
The six getters of the translated `Index` against the Model's on the `abs`-read state. The measurement argument is an
`Optional[str]` that the code tests for truthiness: `""` is read as "no filter" (the recorded finding
`empty-measurement-name`), so the theorems carry `m ≠ some ""`.
-/
namespace TinyFlux.Mirror
open TinyFlux.Model TinyFlux.Spec TinyFlux.Py.Typed
open TinyFlux.Generated

namespace Getters

/-- the truthiness of `measurement_items.intersection(set(b))` -/
theorem truthy_inter (v b : List Nat) :
    truthy (setInter (mkSet v) (mkSet b)) = Index.meets v b := by
  rw [Bool.eq_iff_iff]
  simp only [truthy, setInter, mkSet, Index.meets, Bool.not_eq_true', List.isEmpty_eq_false_iff,
    ne_eq, List.filter_eq_nil_iff, List.any_eq_true, List.contains_iff_mem, mem_dedup]
  constructor
  · intro h
    apply Classical.byContradiction
    intro hn
    apply h
    intro a ha hb
    exact hn ⟨a, hb, ha⟩
  · rintro ⟨a, hb, ha⟩ h
    exact h a ha hb

theorem keys_absMeas (d : AL String (List Nat)) : keysAL (absMeas d) = keysAL d := by
  simp [keysAL, absMeas]

theorem lookup_absMeas (m : String) (d : AL String (List Nat)) :
    lookupAL m (absMeas d) = (lookupAL m d).map unitP := by
  induction d with
  | nil => rfl
  | cons h t ih =>
    obtain ⟨k, v⟩ := h
    simp only [absMeas, List.map_cons, lookupAL] at ih ⊢
    split
    · rfl
    · exact ih

theorem hasMeas_abs (g : GSelf) (m : String) :
    (abs g).hasMeas m = (lookupAL m g._measurements).isSome := by
  simp [Index.hasMeas, abs, lookup_absMeas]

theorem measItems_abs (g : GSelf) (m : String) :
    (abs g).measItems m = (lookupAL m g._measurements).getD [] := by
  simp only [Index.measItems, PMap.posting, abs, lookup_absMeas]
  cases lookupAL m g._measurements with
  | none => rfl
  | some v => simp [map_fst_unitP]

theorem filterMap_ite {α : Type} (p : α → Prop) [DecidablePred p] (l : List α) :
    l.filterMap (fun a => if p a then some a else none) = l.filter (fun a => decide (p a)) := by
  induction l with
  | nil => rfl
  | cons a t ih =>
    simp only [List.filterMap_cons, List.filter_cons]
    by_cases h : p a <;> simp [h, ih]

/-- the guard `if measurement_items & field_items` of `get_field_values` is redundant: without a common item the
    filtered list is empty anyway -/
theorem extend_if_meets {P : Type} (v : List Nat) (its : List (Nat × P)) (acc : List P) :
    (if Index.meets v (its.map (·.1)) = true
      then extend acc ((its.filter (fun i => v.contains i.1)).map (·.2)) else acc)
      = acc ++ (its.filter (fun i => v.contains i.1)).map (·.2) := by
  split
  · rfl
  · rename_i h
    have : its.filter (fun i => v.contains i.1) = [] := by
      rw [List.filter_eq_nil_iff]
      intro a ha hc
      exact h (List.any_eq_true.mpr ⟨a.1, List.mem_map.mpr ⟨a, ha, rfl⟩, hc⟩)
    rw [this]; simp

/-- the loop of `get_field_values` over a dict (`if fk != field_key: continue`): only the entry under `k` contributes -/
theorem foldl_at_key {V β : Type} (k : String) (f : β → V → β) (t : AL String V) (hn : (keysAL t).Nodup) (b : β) :
    t.foldl (fun acc kv => if (kv.1 != k) = true then acc else f acc kv.2) b
      = match lookupAL k t with | none => b | some v => f b v := by
  induction t generalizing b with
  | nil => rfl
  | cons kd t ih =>
    obtain ⟨k', v⟩ := kd
    simp only [keysAL, List.map_cons, List.nodup_cons] at hn
    rw [List.foldl_cons, ih hn.2]
    by_cases hk : k' = k
    · subst hk
      simp [lookupAL, lookupAL_none_of_not_mem k' t hn.1]
    · simp [lookupAL, hk]

theorem dedup_const_append (a : String) {β : Type} (l : List β) (B : List String) (h : a ∉ B) :
    dedup (l.map (fun _ => a) ++ B) = if l.isEmpty then dedup B else a :: dedup B := by
  induction l with
  | nil => simp
  | cons x l ih =>
    simp only [List.map_cons, List.cons_append, dedup, List.isEmpty_cons, Bool.false_eq_true, ↓reduceIte]
    cases l with
    | nil => simp [h]
    | cons y l => simpa using ih

/-- the distinct first components of the flattened entries that pass a test on their posting list, in the
    Model's order, are the keys of the two-level dict that have such an entry -/
theorem flat_keys (Q : List Nat → Bool) (t : AL String (AL (Option String) (List Nat)))
    (hn : (keysAL t).Nodup) :
    dedup (((flatTags t).filter (fun kv => Q (kv.2.map (·.1)))).map (·.1.1))
      = (t.filter (fun kd => (values kd.2).any Q)).map (·.1) := by
  induction t with
  | nil => rfl
  | cons kd t ih =>
    obtain ⟨k0, d0⟩ := kd
    simp only [keysAL, List.map_cons, List.nodup_cons] at hn
    rw [flatTags_cons, List.filter_append, List.map_append]
    have h1 : ((d0.map (fun vl => ((k0, vl.1), unitP vl.2))).filter
        (fun kv => Q (kv.2.map (·.1)))).map (·.1.1)
        = (d0.filter (fun vl => Q vl.2)).map (fun _ => k0) := by
      rw [List.filter_map, List.map_map]
      simp only [Function.comp_def, map_fst_unitP]
    have h2 : k0 ∉ ((flatTags t).filter (fun kv => Q (kv.2.map (·.1)))).map (·.1.1) := by
      intro hmem
      obtain ⟨kv, hkv, e⟩ := List.mem_map.mp hmem
      have := mem_keys_flat t kv.1.1 kv.1.2 (List.mem_map.mpr ⟨kv, (List.mem_filter.mp hkv).1, rfl⟩)
      rw [e] at this
      exact hn.1 this
    rw [h1, dedup_const_append _ _ _ h2, ih hn.2, List.filter_cons]
    have h3 : (d0.filter (fun vl => Q vl.2)).isEmpty = !(values d0).any Q := by
      rw [Bool.eq_iff_iff]
      simp [values, List.filter_eq_nil_iff]
    rw [h3]
    cases (values d0).any Q <;> simp

theorem upd_setAdd (rst : TV) (k : String) (v : Option String) (h : (lookupAL k rst).isSome = true) :
    updItem rst k (fun d0 => pure (setAdd d0 v)) = .ok (addTV rst k v) := by
  obtain ⟨x, hx⟩ := Option.isSome_iff_exists.mp h
  rw [updItem_ok hx (w := setAdd x v) rfl, addTV, alterAL_eq_setItem, hx]
  rfl

theorem isSome_addTV (rst : TV) (k k' : String) (v : Option String) (h : (lookupAL k rst).isSome = true) :
    (lookupAL k' (addTV rst k v)).isSome = (lookupAL k' rst).isSome := by
  by_cases hk : k' = k
  · subst hk; simp [addTV, lookupAL_alterAL_self, h]
  · simp [addTV, lookupAL_alterAL_other _ _ hk]

/-- the dict `rst` has exactly the requested keys: what makes the code's `tag_key in rst` the Model's
    `keys.contains tag_key` -/
def HasKeys (keys : List String) (rst : TV) : Prop := ∀ k, (lookupAL k rst).isSome = keys.contains k

/-- `if k in rst and c: rst[k].add(v)` -/
theorem addIf_step (keys : List String) (rst : TV) (hI : HasKeys keys rst) (k : String) (v : Option String) (c : Bool) :
    (if ((lookupAL k rst).isSome && c) = true then updItem rst k (fun d0 => pure (setAdd d0 v)) else pure rst)
        = .ok (if (keys.contains k && c) = true then addTV rst k v else rst)
      ∧ HasKeys keys (if (keys.contains k && c) = true then addTV rst k v else rst) := by
  rw [hI k]
  split
  · rename_i h
    have hk : (lookupAL k rst).isSome = true := by rw [hI k]; exact (Bool.and_eq_true _ _ ▸ h).1
    exact ⟨upd_setAdd rst k v hk, fun k' => by rw [isSome_addTV rst k k' v hk]; exact hI k'⟩
  · exact ⟨rfl, hI⟩

/-- `if k not in rst: rst[k] = {v} else: rst[k].add(v)` is `addTV` -/
theorem add_or_create (rst : TV) (k : String) (v : Option String) :
    (if (!(lookupAL k rst).isSome) = true then pure (setItem rst k (mkSet [v]))
      else updItem rst k fun d0 => pure (setAdd d0 v)) = (pure (addTV rst k v) : M TV) := by
  cases h : lookupAL k rst with
  | none =>
    simp only [Option.isSome_none, Bool.not_false, ↓reduceIte, setItem, addTV, alterAL_of_lookup_none _ _ _ _ h]
    simp [mkSet, dedup]
  | some x =>
    have h' : (lookupAL k rst).isSome = true := by rw [h]; rfl
    simp only [Option.isSome_some, Bool.not_true, Bool.false_eq_true, ↓reduceIte]
    rw [upd_setAdd rst k v h']; rfl

theorem isSome_lookup_map {V : Type} (x : V) (l : List String) (k : String) :
    (lookupAL k (l.map (fun i => (i, x)))).isSome = l.contains k := by
  rw [Bool.eq_iff_iff, lookupAL_isSome]
  simp [keysAL]

/-- `rst[k] = set()`, then `rst[k].add(v)` for every `v` -/
theorem updLoop_after_reset (rst : TV) (k : String) (l : List (Option String)) :
    List.foldlM (fun rst tv => updItem rst k fun d0 => pure (setAdd d0 tv)) (setItem rst k []) l
      = (pure (l.foldl (fun rst tv => addTV rst k tv) (setItem rst k [])) : M TV) :=
  (foldlM_ok_inv (fun rst => (lookupAL k rst).isSome = true) _ _ l
    (fun rst h tv _ => ⟨upd_setAdd rst k tv h, by rw [isSome_addTV rst k k tv h]; exact h⟩) _
    (by simp [setItem, lookupAL_alterAL_self])).1

theorem lookup_foldl_addTV_other {β : Type} (k k' : String) (hne : k' ≠ k) (fv : β → Option String)
    (l : List β) (acc : TV) :
    lookupAL k' (l.foldl (fun acc b => addTV acc k (fv b)) acc) = lookupAL k' acc := by
  induction l generalizing acc with
  | nil => rfl
  | cons a t ih =>
    rw [List.foldl_cons, ih]
    exact lookupAL_alterAL_other k k' hne _ _ acc

/-- first case of `get_tag_values`: resetting `rst[tag_key]` first changes nothing on a dict-shaped `_tags`
    without empty inner dicts -/
theorem foldl_reset_add (rest : AL String (AL (Option String) (List Nat))) (acc : TV)
    (hn : (keysAL rest).Nodup) (hne : TagsNE rest)
    (hacc : ∀ kd ∈ rest, lookupAL kd.1 acc = none) :
    rest.foldl (fun rst x => x.2.foldl (fun rst vl => addTV rst x.1 vl.1) (setItem rst x.1 [])) acc
      = rest.foldl (fun acc kd => kd.2.foldl (fun acc vl => addTV acc kd.1 vl.1) acc) acc := by
  induction rest generalizing acc with
  | nil => rfl
  | cons kd rest ih =>
    obtain ⟨k, d⟩ := kd
    simp only [keysAL, List.map_cons, List.nodup_cons] at hn
    have h0 : lookupAL k acc = none := hacc (k, d) List.mem_cons_self
    have hd : d ≠ [] := hne (k, d) List.mem_cons_self
    have e : d.foldl (fun rst vl => addTV rst k vl.1) (setItem acc k [])
        = d.foldl (fun rst vl => addTV rst k vl.1) acc := by
      cases d with
      | nil => exact absurd rfl hd
      | cons vl l =>
        simp only [List.foldl_cons]
        congr 1
        simp only [addTV, setItem, alterAL_of_lookup_none _ _ _ _ h0, alterAL_append_self _ _ _ _ _ h0]
    simp only [List.foldl_cons]
    rw [e]
    apply ih _ hn.2 (fun kd h => hne kd (List.mem_cons_of_mem _ h))
    intro kd' hkd'
    have hne' : kd'.1 ≠ k := by
      intro e'; apply hn.1; rw [← e']; exact List.mem_map.mpr ⟨kd', hkd', rfl⟩
    rw [lookup_foldl_addTV_other k kd'.1 hne']
    exact hacc kd' (List.mem_cons_of_mem _ hkd')

/-- a loop over `_tags` whose body, as long as an invariant `I` of the accumulator holds, is the fold of `f` over the
    values of the entry: it does not raise and is the Model's fold of `f` over `flatTags` (`foldl_flatTags`) -/
theorem tags_loop {β : Type} (I : β → Prop) (body : β → String × AL (Option String) (List Nat) → M β)
    (f : β → String → Option String → List Nat → β) (t : AL String (AL (Option String) (List Nat))) (b : β)
    (hb : I b)
    (h : ∀ b, I b → ∀ kd ∈ t, body b kd = .ok (kd.2.foldl (fun acc vl => f acc kd.1 vl.1 vl.2) b)
      ∧ I (kd.2.foldl (fun acc vl => f acc kd.1 vl.1 vl.2) b)) :
    t.foldlM body b = .ok ((flatTags t).foldl (fun acc kv => f acc kv.1.1 kv.1.2 (kv.2.map (·.1))) b) :=
  (foldlM_ok_inv I body _ t h b hb).1.trans (congrArg _ (foldl_flatTags f t b).symm)

end Getters
open Getters

theorem get_measurements_ok (g : GSelf) (hg : GWF g) :
    IndexImpl.get_measurements g = .ok (abs g).getMeasurements := by
  simp only [IndexImpl.get_measurements, mkSet, keys, Index.getMeasurements, abs, keys_absMeas,
    dedup_of_nodup _ hg.meas]
  rfl

theorem get_timestamps_ok (g : GSelf) (hg : GWF g) (m : Option String) (hm : m ≠ some "") :
    IndexImpl.get_timestamps g m = .ok ((abs g).getTimestamps m) := by
  cases m with
  | none =>
    have _ := hg
    simp [IndexImpl.get_timestamps, Index.getTimestamps, truthy, sortedBy, item0, item1, abs]
    rfl
  | some s =>
    have ht := truthy_some s hm
    cases hl : lookupAL s g._measurements with
    | none =>
      simp only [IndexImpl.get_timestamps, Index.getTimestamps, ht, isin, hl, hasMeas_abs, Option.isSome_none,
        Bool.not_false, Bool.not_true, Bool.false_eq_true, ↓reduceIte]
      rfl
    | some v =>
      simp only [IndexImpl.get_timestamps, Index.getTimestamps, ht, isin, hl, getItem_optkey _ _ _ hl, hasMeas_abs,
        measItems_abs, Option.isSome_some, Option.getD_some, Bool.not_true, Bool.false_eq_true, ↓reduceIte,
        pure_bind, contains_mkSet, ite_pure, filterMapM_pure, filterMap_ite, Bool.decide_eq_true]
      rfl

theorem get_field_keys_ok (g : GSelf) (hg : GWF g) (m : Option String) (hm : m ≠ some "") :
    IndexImpl.get_field_keys g m = .ok ((abs g).getFieldKeys m) := by
  cases m with
  | none =>
    simp only [IndexImpl.get_field_keys, truthy, Index.getFieldKeys, mkSet, keys, abs,
      dedup_of_nodup _ hg.fields]
    rfl
  | some s =>
    have ht := truthy_some s hm
    cases hl : lookupAL s g._measurements with
    | none =>
      simp only [IndexImpl.get_field_keys, Index.getFieldKeys, ht, isin, hl, hasMeas_abs, Option.isSome_none,
        Bool.not_false, Bool.not_true, Bool.false_eq_true, ↓reduceIte]
      rfl
    | some v =>
      simp only [IndexImpl.get_field_keys, Index.getFieldKeys, ht, isin, hl, getItem_optkey _ _ _ hl, hasMeas_abs,
        measItems_abs, Option.isSome_some, Option.getD_some, Bool.not_true, Bool.false_eq_true, ↓reduceIte,
        pure_bind, truthy_inter, items, item0, ite_pure, List.foldlM_pure]
      rw [foldl_setAdd_filter _ _ _ (by simpa using hg.fields)]
      rfl

theorem get_field_values_ok (g : GSelf) (hg : GWF g) (k : String) (m : Option String) (hm : m ≠ some "") :
    IndexImpl.get_field_values g k m = .ok ((abs g).getFieldValues k m) := by
  cases m with
  | none =>
    cases hl : lookupAL k g._fields
    all_goals
      simp only [IndexImpl.get_field_values, Index.getFieldValues, truthy_none, isin, getItem, hl, Option.isSome_none,
        Option.isSome_some, Bool.not_false, Bool.false_eq_true, ↓reduceIte, pure_bind, item1]
      simp only [PMap.posting, abs, hl]
      rfl
  | some s =>
    have ht := truthy_some s hm
    cases hl : lookupAL s g._measurements with
    | none =>
      simp only [IndexImpl.get_field_values, Index.getFieldValues, ht, isin, hl, hasMeas_abs, Option.isSome_none,
        Bool.not_false, Bool.not_true, Bool.false_eq_true, ↓reduceIte]
      rfl
    | some v =>
      simp only [IndexImpl.get_field_values, Index.getFieldValues, ht, isin, hl, getItem_optkey _ _ _ hl, hasMeas_abs,
        measItems_abs, Option.isSome_some, Option.getD_some, Bool.not_true, Bool.false_eq_true, ↓reduceIte,
        pure_bind, truthy_inter, items, item0, item1, ite_pure, List.foldlM_pure, contains_mkSet, extend_if_meets]
      rw [foldl_at_key k (fun acc its => acc ++ (its.filter (fun i => v.contains i.1)).map (·.2)) _ hg.fields]
      show _ = Except.ok ((((lookupAL k g._fields).getD []).filter _).map _)
      cases lookupAL k g._fields <;> rfl

/-! `get_tag_keys_ok` and `get_tag_values_ok` need `hne : ∀ kd ∈ g._tags, kd.2 ≠ []` (no tag key with an empty inner
dict: `TagsNE`, which every state the translated methods produce has, `Mirror/Ops.lean`). `GWF`/`TagsWF` only
exclude empty posting lists; an empty inner dict disappears in `flatTags`, while the code still reports its key.
Without `hne` (and with `GWF`): `_tags := [("a", [])]`, everything else empty, gives
`IndexImpl.get_tag_keys g none = .ok ["a"]` but `(abs g).getTagKeys none = []`, and
`IndexImpl.get_tag_values g [] none = .ok [("a", [])]` but `(abs g).getTagValues [] none = []`. -/

theorem get_tag_keys_ok (g : GSelf) (hg : GWF g) (hne : ∀ kd ∈ g._tags, kd.2 ≠ [])
    (m : Option String) (hm : m ≠ some "") :
    IndexImpl.get_tag_keys g m = .ok ((abs g).getTagKeys m) := by
  cases m with
  | none =>
    simp only [IndexImpl.get_tag_keys, truthy_none, Bool.not_false, ↓reduceIte]
    simp only [Index.getTagKeys, mkSet, keys, abs, dedup_of_nodup _ hg.tags.1]
    -- every key has a value (`hne`), so it is the first component of some flattened pair
    have h2 : ∀ kd ∈ g._tags, (values kd.2).any (fun _ => true) = true := by
      intro kd hkd
      cases hv : kd.2 with
      | nil => exact absurd hv (hne kd hkd)
      | cons a l => rfl
    have h := flat_keys (fun _ => true) g._tags hg.tags.1
    rw [List.filter_eq_self.mpr (fun _ _ => rfl), List.filter_eq_self.mpr h2] at h
    rw [h]
    rfl
  | some s =>
    have ht := truthy_some s hm
    cases hl : lookupAL s g._measurements with
    | none =>
      simp only [IndexImpl.get_tag_keys, Index.getTagKeys, ht, isin, hl, hasMeas_abs, Option.isSome_none,
        Bool.not_false, Bool.not_true, Bool.false_eq_true, ↓reduceIte]
      rfl
    | some v =>
      simp only [IndexImpl.get_tag_keys, Index.getTagKeys, ht, isin, hl, getItem_optkey _ _ _ hl, hasMeas_abs,
        measItems_abs, Option.isSome_some, Option.getD_some, Bool.not_true, Bool.false_eq_true, ↓reduceIte,
        pure_bind, truthy_inter, items, ite_pure, List.foldlM_pure, foldl_setAdd_const]
      rw [foldl_setAdd_filter (fun kd => (values kd.2).any (Index.meets v)) _ _ (by simpa using hg.tags.1)]
      exact congrArg Except.ok (flat_keys (Index.meets v) _ hg.tags.1).symm

theorem get_tag_values_ok (g : GSelf) (hg : GWF g) (hne : ∀ kd ∈ g._tags, kd.2 ≠ [])
    (keys : List String) (hk : keys.Nodup)
    (m : Option String) (hm : m ≠ some "") :
    IndexImpl.get_tag_values g keys m = .ok ((abs g).getTagValues keys m) := by
  -- Four cases (measurement given or not, keys given or not). The nested loop over `_tags` is run by `tags_loop`,
  -- with keys under the invariant `HasKeys` (`tag_key in rst` is `keys.contains tag_key`). Without keys and
  -- measurement the code first sets `rst[k] = set()`: a no-op (`foldl_reset_add`). With a measurement the inner loop is
  -- over `self._tags[tag_key]`, looked up again inside the loop over `self._tags.items()`: it is the value of the pair at
  -- hand (`getItem_ok (lookupAL_of_mem …)`) because the keys of `_tags` are distinct (`hn`).
  have hkt : truthy keys = !keys.isEmpty := rfl
  have hn := hg.tags.1
  cases m with
  | none =>
    cases hk0 : keys.isEmpty with
    | true =>
      simp only [IndexImpl.get_tag_values, Index.getTagValues, truthy_none, hkt, hk0, Bool.not_false, Bool.not_true,
        Bool.and_self, ↓reduceIte,
        items, TinyFlux.Py.Typed.keys, updLoop_after_reset, List.foldlM_pure, keysAL, List.foldl_map]
      congr 1
      refine Eq.trans ?_ (foldl_flatTags (fun acc k tv _ => addTV acc k tv) _ _).symm
      exact foldl_reset_add g._tags [] hn hne (fun _ _ => rfl)
    | false =>
      simp only [IndexImpl.get_tag_values, Index.getTagValues, truthy_none, hkt, hk0, Bool.not_false, Bool.not_true,
        Bool.and_false, Bool.false_eq_true, Bool.and_self, ↓reduceIte,
        isin, items, TinyFlux.Py.Typed.keys, dictOf_nodup _ _ hk, dedup_of_nodup _ hk, keysAL, List.foldlM_map]
      refine tags_loop (HasKeys keys) _ (fun acc k tv _ => if keys.contains k = true then addTV acc k tv else acc) _ _
        (isSome_lookup_map _ keys) ?_
      intro rst hI kd _
      rw [hI kd.1]
      cases hc : keys.contains kd.1 with
      | false =>
        simp only [Bool.false_eq_true, ↓reduceIte, foldl_skip]
        exact ⟨rfl, hI⟩
      | true =>
        simp only [↓reduceIte]
        exact foldlM_ok_inv (HasKeys keys) _ _ _ (fun rst hI vl _ =>
          have hp := (hI kd.1).trans hc
          ⟨upd_setAdd rst kd.1 vl.1 hp, fun k' => by rw [isSome_addTV rst kd.1 k' vl.1 hp]; exact hI k'⟩) rst hI
  | some s =>
    have ht := truthy_some s hm
    cases hl : lookupAL s g._measurements with
    | none =>
      cases hk0 : keys.isEmpty
      all_goals simp only [IndexImpl.get_tag_values, Index.getTagValues, ht, hkt, hk0, isin, hl, hasMeas_abs,
        Option.isSome_none, Bool.not_false, Bool.not_true, Bool.false_and, Bool.and_false, Bool.true_and,
        Bool.false_eq_true, ↓reduceIte, dictOf_nodup _ _ hk, dedup_of_nodup _ hk]
      all_goals rfl
    | some v =>
      cases hk0 : keys.isEmpty with
      | true =>
        simp only [IndexImpl.get_tag_values, Index.getTagValues, ht, hkt, hk0, isin, hl, getItem_optkey _ _ _ hl,
          hasMeas_abs, measItems_abs, Option.isSome_some, Option.getD_some, Bool.not_false, Bool.not_true,
          Bool.false_eq_true, Bool.and_true, Bool.and_self, ↓reduceIte,
          pure_bind, truthy_inter, items, add_or_create, ite_pure, List.foldlM_pure]
        refine tags_loop (fun _ => True) _ (fun acc k tv its => if Index.meets v its = true then addTV acc k tv else acc)
          _ _ trivial (fun rst _ kd hkd => ⟨?_, trivial⟩)
        rw [getItem_ok (lookupAL_of_mem _ hn kd.1 kd.2 hkd), bind_ok]; rfl
      | false =>
        simp only [IndexImpl.get_tag_values, Index.getTagValues, ht, hkt, hk0, isin, hl, getItem_optkey _ _ _ hl,
          hasMeas_abs, measItems_abs, Option.isSome_some, Option.getD_some, Bool.not_false, Bool.not_true,
          Bool.false_eq_true, Bool.and_true, Bool.and_self, Bool.and_false, ↓reduceIte,
          pure_bind, truthy_inter, items, dictOf_nodup _ _ hk, dedup_of_nodup _ hk]
        refine tags_loop (HasKeys keys) _
          (fun acc k tv its => if (keys.contains k && Index.meets v its) = true then addTV acc k tv else acc) _ _
          (isSome_lookup_map _ keys) ?_
        intro rst hI kd hkd
        rw [getItem_ok (lookupAL_of_mem _ hn kd.1 kd.2 hkd), bind_ok]
        exact foldlM_ok_inv (HasKeys keys) _ _ _ (fun rst hI vl _ => addIf_step keys rst hI kd.1 vl.1 _) rst hI

end TinyFlux.Mirror
