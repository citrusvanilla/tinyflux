import TinyFlux.Mirror.Maps
/-!
The two-level `_tags` dict (`_insert_tags`, `_remove_tags`, `_update_tags`): it maps a tag key to a dict from tag values to
posting lists; the Model keeps it flattened to (key, value) pairs (`flatTags`). The posting list under `(k, v)` of the
flattened dict is `t[k][v]` (`posting_flat`). `_insert_tags` and `_remove_tags` are passes of assignments `t[k][v] = …`
(`alter2`), so each is compared with the Model's operation on the flattened dict posting list by posting list
(`lookup2_alter2`); the order of the flattened keys may differ. `_update_tags` renumbers every posting list where it stands
(`items_loop` at both levels, `renTags`) and is compared exactly (`flatTags_renTags`).
-/
namespace TinyFlux.Mirror
open TinyFlux.Model TinyFlux.Spec TinyFlux.Py.Typed
open TinyFlux.Generated

section
variable {K V : Type} [BEq K] [LawfulBEq K]

theorem lookupAL_eq_none_iff (k : K) (l : AL K V) : lookupAL k l = none ↔ k ∉ keysAL l := by
  rw [← Option.not_isSome_iff_eq_none, lookupAL_isSome]
end

theorem lookup_flat_inner (k' : String) (d : AL (Option String) (List Nat)) (k : String) (v : Option String) :
    lookupAL (k, v) (d.map (fun vl => ((k', vl.1), unitP vl.2)))
      = if k' = k then (lookupAL v d).map unitP else none := by
  induction d with
  | nil => simp [lookupAL]
  | cons hd t ih =>
    obtain ⟨v', l⟩ := hd
    by_cases hk : k' = k
    · subst hk
      by_cases hv : v' = v
      · subst hv; simp [lookupAL]
      · simp [lookupAL, hv] at ih ⊢; exact ih
    · simp [lookupAL, hk] at ih ⊢; exact ih

theorem flatTags_cons (k' : String) (d : AL (Option String) (List Nat)) (t) :
    flatTags ((k', d) :: t) = d.map (fun vl => ((k', vl.1), unitP vl.2)) ++ flatTags t := by
  simp [flatTags]

theorem lookup_flat (t : AL String (AL (Option String) (List Nat))) (ht : (keysAL t).Nodup)
    (k : String) (v : Option String) :
    lookupAL (k, v) (flatTags t) = (lookupAL k t).bind (fun d => (lookupAL v d).map unitP) := by
  induction t with
  | nil => simp [flatTags, lookupAL]
  | cons hd t ih =>
    obtain ⟨k', d⟩ := hd
    have hnd : k' ∉ keysAL t ∧ (keysAL t).Nodup := List.nodup_cons.mp ht
    have ih' := ih hnd.2
    rw [flatTags_cons, lookupAL_append, lookup_flat_inner, ih']
    by_cases hk : k' = k
    · subst hk
      have hn : lookupAL k' t = none := lookupAL_none_of_not_mem _ _ hnd.1
      simp [lookupAL, hn]
    · simp [lookupAL, hk]

theorem mem_keys_flat (t : AL String (AL (Option String) (List Nat))) (k : String) (v : Option String)
    (h : (k, v) ∈ keysAL (flatTags t)) : k ∈ keysAL t := by
  simp only [keysAL, flatTags, List.mem_map, List.mem_flatMap] at h ⊢
  obtain ⟨⟨kv, ps⟩, ⟨kd, hkd, hm⟩, he⟩ := h
  obtain ⟨vl, _, hvl⟩ := hm
  refine ⟨kd, hkd, ?_⟩
  cases hvl; cases he; rfl

theorem wfmap_flat (t : AL String (AL (Option String) (List Nat))) (ht : TagsWF t) : WFMap (flatTags t) := by
  constructor
  · -- pairs of one entry differ in the inner key, pairs of two entries in the outer key
    have hk : keysAL (flatTags t) = t.flatMap (fun kd => (keysAL kd.2).map (fun v => (kd.1, v))) := by
      simp [keysAL, flatTags, List.map_flatMap, Function.comp_def]
    rw [hk]
    refine List.pairwise_flatMap.mpr ⟨fun kd hkd => ?_, (List.pairwise_map.mp ht.1).imp ?_⟩
    · exact List.Pairwise.map _ (fun a b h e => h (Prod.mk.inj e).2) (ht.2 kd hkd).1
    · intro a b hab x hx y hy e
      obtain ⟨_, _, rfl⟩ := List.mem_map.mp hx
      obtain ⟨_, _, rfl⟩ := List.mem_map.mp hy
      exact hab (Prod.mk.inj e).1
  · intro kv hkv
    simp only [flatTags, List.mem_flatMap, List.mem_map] at hkv
    obtain ⟨kd, hkd, vl, hvl, rfl⟩ := hkv
    have := (ht.2 kd hkd).2 vl hvl
    simpa [unitP] using this

/-- `t[k][v]`, `[]` when absent -/
def lookup2 (t : AL String (AL (Option String) (List Nat))) (k : String) (v : Option String) : List Nat :=
  (lookupAL v ((lookupAL k t).getD [])).getD []

theorem posting_flat (t : AL String (AL (Option String) (List Nat))) (ht : (keysAL t).Nodup)
    (k : String) (v : Option String) :
    PMap.posting (flatTags t) (k, v) = unitP (lookup2 t k v) := by
  unfold PMap.posting lookup2
  rw [lookup_flat t ht]
  cases h1 : lookupAL k t with
  | none => simp [lookupAL, unitP]
  | some d =>
    cases h2 : lookupAL v d with
    | none => simp [h2, unitP]
    | some l => simp [h2]

theorem map_fst_unitP (l : List Nat) : (unitP l).map (·.1) = l := by
  induction l with
  | nil => rfl
  | cons a t ih => simp only [unitP, List.map_cons, List.map_map] at ih ⊢; rw [ih]

theorem foldl_flatTags {β : Type} (f : β → String → Option String → List Nat → β)
    (t : AL String (AL (Option String) (List Nat))) (b : β) :
    (flatTags t).foldl (fun acc kv => f acc kv.1.1 kv.1.2 (kv.2.map (·.1))) b
      = t.foldl (fun acc kd => kd.2.foldl (fun acc vl => f acc kd.1 vl.1 vl.2) acc) b := by
  simp only [flatTags, List.foldl_flatMap, List.foldl_map, map_fst_unitP]

/-- `t[k][v] = f(t.get(k, {}).get(v, dflt))` -/
def alter2 (k : String) (v : Option String) (dflt : List Nat) (f : List Nat → List Nat)
    (t : AL String (AL (Option String) (List Nat))) : AL String (AL (Option String) (List Nat)) :=
  alterAL k [] (alterAL v dflt f) t

theorem lookup2_alter2 (k : String) (v : Option String) (dflt : List Nat) (f : List Nat → List Nat)
    (t : AL String (AL (Option String) (List Nat))) (k' : String) (v' : Option String) :
    lookup2 (alter2 k v dflt f t) k' v'
      = if k' = k ∧ v' = v then f ((lookupAL v ((lookupAL k t).getD [])).getD dflt) else lookup2 t k' v' := by
  unfold lookup2 alter2
  by_cases hk : k' = k
  · subst hk
    rw [lookupAL_alterAL_self]
    by_cases hv : v' = v
    · subst hv; rw [Option.getD_some, lookupAL_alterAL_self]; simp
    · rw [Option.getD_some, lookupAL_alterAL_other _ _ hv]; simp [hv]
  · rw [lookupAL_alterAL_other _ _ hk]; simp [hk]

theorem tagsWF_alter2 (k : String) (v : Option String) (dflt : List Nat) (f : List Nat → List Nat)
    (hf : ∀ l, f l ≠ []) (t : AL String (AL (Option String) (List Nat))) (ht : TagsWF t) :
    TagsWF (alter2 k v dflt f t) := by
  refine ⟨nodup_keys_alterAL _ _ _ _ ht.1, ?_⟩
  have hstep : ∀ d : AL (Option String) (List Nat), ((keysAL d).Nodup ∧ ∀ vl ∈ d, vl.2 ≠ []) →
      ((keysAL (alterAL v dflt f d)).Nodup ∧ ∀ vl ∈ alterAL v dflt f d, vl.2 ≠ []) := by
    intro d hd
    exact ⟨nodup_keys_alterAL _ _ _ _ hd.1, alterAL_all (fun l => l ≠ []) v dflt f (hf dflt) (fun l _ => hf l) d hd.2⟩
  exact alterAL_all (fun d => (keysAL d).Nodup ∧ ∀ vl ∈ d, vl.2 ≠ []) k [] _
    (hstep [] ⟨by simp [keysAL], by simp⟩) hstep t ht.2

/-- no tag key with an empty inner dict: what the tag getters need besides `TagsWF` (`Mirror/Defs.lean`). Every translated
    method keeps it (`insert_ne`, `remove_ne`, `update_ne`, `build_ne` in `Mirror/Ops.lean`): `_insert_tags` fills the inner
    dict it creates in the same iteration, and `_remove_tags` creates an inner dict only together with a non-empty posting
    list to put in it — both are passes of `alter2`, and an assignment `t[k][v] = …` leaves `t[k]` non-empty
    (`tagsNE_alter2`, from `alterAL_ne_nil`); `_update_tags` keeps the shape of the dict (`tagsNE_renTags`) -/
def TagsNE (t : AL String (AL (Option String) (List Nat))) : Prop := ∀ kd ∈ t, kd.2 ≠ []

theorem tagsNE_nil : TagsNE [] := by
  intro kd h; cases h

theorem tagsNE_alter2 (k : String) (v : Option String) (dflt : List Nat) (f : List Nat → List Nat)
    (t : AL String (AL (Option String) (List Nat))) (ht : TagsNE t) : TagsNE (alter2 k v dflt f t) :=
  alterAL_all (fun d => d ≠ []) k [] (alterAL v dflt f) (alterAL_ne_nil _ _ _ _)
    (fun d _ => alterAL_ne_nil _ _ _ d) t ht

/-- the translated body of the loop of `_insert_tags` -/
def insStep (idx : Nat) (self : GSelf) (x : String × Option String) : M GSelf :=
  match x with
  | (tag_key, tag_value) => do
      let self ← (if (!isin tag_key self._tags) then do
        let self := { self with _tags := (setItem self._tags tag_key []) }
        pure self
      else do
        pure self
      )
      let self ← (if (!isin tag_value (← getItem self._tags tag_key)) then do
        let self := { self with _tags := (← updItem self._tags tag_key (fun d0 => pure (setItem d0 tag_value [idx]))) }
        pure self
      else do
        let self := { self with _tags := (← updItem self._tags tag_key (fun d0 => updItem d0 tag_value (fun d1 => pure (append d1 idx)))) }
        pure self
      )
      pure self

/-- tie of `IndexImpl._insert_tags` to its copy `insStep` (evaluated by `insStep_ok`); repair: DESIGN.md 3.4, "When the translation changes" -/
theorem insert_tags_eq (g : GSelf) (idx : Nat) (tags : AL String (Option String)) :
    IndexImpl._insert_tags g idx tags = List.foldlM (insStep idx) g tags := by
  unfold IndexImpl._insert_tags items
  rfl

/-- `alter2` read through `setItem`: the form the translated code produces -/
theorem alter2_eq_setItem (k : String) (v : Option String) (dflt : List Nat) (f : List Nat → List Nat)
    (t : AL String (AL (Option String) (List Nat))) :
    alter2 k v dflt f t
      = setItem t k (setItem ((lookupAL k t).getD []) v (f ((lookupAL v ((lookupAL k t).getD [])).getD dflt))) := by
  unfold alter2
  rw [alterAL_eq_setItem, alterAL_eq_setItem]

theorem insStep_ok (idx : Nat) (g : GSelf) (k : String) (v : Option String) :
    insStep idx g (k, v) = .ok { g with _tags := alter2 k v [] (fun l => l ++ [idx]) g._tags } := by
  rw [alter2_eq_setItem]
  unfold insStep
  simp only [isin_eq, append]
  cases h1 : lookupAL k g._tags with
  | none =>
    -- a fresh inner dict is created, then filled
    have hl : lookupAL k (setItem g._tags k ([] : AL (Option String) (List Nat))) = some [] := by
      rw [lookupAL_setItem]; simp
    simp only [Option.isSome_none, Bool.not_false, ↓reduceIte, pure, Except.pure, bind_ok, getItem_ok hl,
      lookupAL, Option.getD_none]
    rw [updItem_ok hl (w := setItem [] v [idx]) rfl, bind_ok, setItem_setItem]
    rfl
  | some d =>
    simp only [Option.isSome_some, Bool.not_true, Bool.false_eq_true, ↓reduceIte, pure, Except.pure, bind_ok,
      getItem_ok h1, Option.getD_some]
    obtain h2 | ⟨l, h2⟩ : lookupAL v d = none ∨ ∃ l, lookupAL v d = some l := by
      cases lookupAL v d <;> simp
    · simp only [h2, Option.isSome_none, Bool.not_false, ↓reduceIte, Option.getD_none]
      rw [updItem_ok h1 (w := setItem d v [idx]) rfl]; rfl
    · simp only [h2, Option.isSome_some, Bool.not_true, Bool.false_eq_true, ↓reduceIte, Option.getD_some]
      rw [updItem_ok h1 (w := setItem d v (l ++ [idx])) (updItem_ok h2 (w := l ++ [idx]) rfl)]; rfl

/-- the loop of `_insert_tags` (the loop of `Index.insert` is run in `insert_run`, `Mirror/Ops.lean`) -/
theorem insert_loop (idx : Nat) (tags : AL String (Option String)) (g : GSelf) :
    List.foldlM (insStep idx) g tags
    = .ok { g with _tags := tags.foldl (fun t kv => alter2 kv.1 kv.2 [] (fun l => l ++ [idx]) t) g._tags } := by
  rw [foldlM_ok (insStep idx) (fun s kv => { s with _tags := alter2 kv.1 kv.2 [] (fun l => l ++ [idx]) s._tags })
    (fun s kv => insStep_ok idx s kv.1 kv.2)]
  exact congrArg Except.ok (List.foldl_hom (fun t => ({ g with _tags := t } : GSelf))
    (g₁ := fun t (kv : String × Option String) => alter2 kv.1 kv.2 [] (fun l => l ++ [idx]) t) (fun _ _ => rfl))

theorem posting_flat_alter2_append (idx : Nat) (k : String) (v : Option String)
    (t : AL String (AL (Option String) (List Nat))) (ht : TagsWF t) (kv : String × Option String) :
    PMap.posting (flatTags (alter2 k v [] (fun l => l ++ [idx]) t)) kv
      = PMap.posting (flatTags t) kv ++ (if (k, v) == kv then [(idx, ())] else []) := by
  obtain ⟨k', v'⟩ := kv
  have hwf := tagsWF_alter2 k v [] (fun l => l ++ [idx]) (fun l => by simp) t ht
  rw [posting_flat _ hwf.1, lookup2_alter2, posting_flat _ ht.1]
  by_cases h : k' = k ∧ v' = v
  · obtain ⟨rfl, rfl⟩ := h
    simp [lookup2, unitP]
  · have hb : ((k, v) == (k', v')) = false := by
      simp only [beq_eq_false_iff_ne, ne_eq, Prod.mk.injEq, not_and]
      intro e1 e2; exact h ⟨e1.symm, e2.symm⟩
    rw [if_neg h, hb]
    exact (List.append_nil _).symm

theorem insert_tags_spec (idx : Nat) (tags : AL String (Option String))
    (t : AL String (AL (Option String) (List Nat))) (m : PMap (String × Option String) Unit)
    (ht : TagsWF t) (hm : ∀ kv, PMap.posting (flatTags t) kv = PMap.posting m kv) :
    TagsWF (tags.foldl (fun t kv => alter2 kv.1 kv.2 [] (fun l => l ++ [idx]) t) t)
    ∧ (∀ kv, PMap.posting (flatTags (tags.foldl (fun t kv => alter2 kv.1 kv.2 [] (fun l => l ++ [idx]) t) t)) kv
        = PMap.posting (tags.foldl (fun acc kv => PMap.insert acc (kv.1, kv.2) idx ()) m) kv)
    ∧ (TagsNE t → TagsNE (tags.foldl (fun t kv => alter2 kv.1 kv.2 [] (fun l => l ++ [idx]) t) t)) := by
  induction tags generalizing t m with
  | nil => exact ⟨ht, hm, id⟩
  | cons hd tl ih =>
    obtain ⟨k, v⟩ := hd
    obtain ⟨h1, h2, h3⟩ := ih (alter2 k v [] (fun l => l ++ [idx]) t) (PMap.insert m (k, v) idx ())
      (tagsWF_alter2 k v [] (fun l => l ++ [idx]) (fun l => by simp) t ht)
      (fun kv => by rw [posting_flat_alter2_append idx k v t ht, posting_insert, hm])
    exact ⟨h1, h2, fun hne => h3 (tagsNE_alter2 _ _ _ _ t hne)⟩

theorem insert_tags_run (g : GSelf) (idx : Nat) (tags : AL String (Option String)) :
    IndexImpl._insert_tags g idx tags
      = .ok { g with _tags := tags.foldl (fun t kv => alter2 kv.1 kv.2 [] (fun l => l ++ [idx]) t) g._tags } := by
  rw [insert_tags_eq, insert_loop]

theorem insert_tags_ok (g : GSelf) (idx : Nat) (tags : AL String (Option String)) (hwf : TagsWF g._tags) :
    ∃ X, IndexImpl._insert_tags g idx tags = .ok { g with _tags := X }
      ∧ TagsWF X
      ∧ ∀ kv, PMap.posting (flatTags X) kv
            = PMap.posting (tags.foldl (fun acc kv => PMap.insert acc (kv.1, kv.2) idx ()) (flatTags g._tags)) kv := by
  obtain ⟨w, p, _⟩ := insert_tags_spec idx tags g._tags (flatTags g._tags) hwf (fun _ => rfl)
  exact ⟨_, insert_tags_run g idx tags, w, p⟩

/-- the translated body of the inner loop of `_remove_tags` -/
def remInner (r_items : List Nat) (tag_key : String) (new_tags : AL String (AL (Option String) (List Nat)))
    (x : Option String × List Nat) : M (AL String (AL (Option String) (List Nat))) :=
  match x with
  | (value, old_items) => do
          let new_items := (List.filter (fun i => (!isin i r_items)) old_items)
          if (!(truthy new_items)) then do
            pure new_tags
          else do
            let new_tags ← (if (!isin tag_key new_tags) then do
              let new_tags := (setItem new_tags tag_key [(value, new_items)])
              pure new_tags
            else do
              let new_tags ← updItem new_tags tag_key (fun d0 => pure (setItem d0 value new_items))
              pure new_tags
            )
            pure new_tags

/-- the translated body of the outer loop of `_remove_tags` -/
def remOuter (r_items : List Nat) (new_tags : AL String (AL (Option String) (List Nat)))
    (x : String × AL (Option String) (List Nat)) : M (AL String (AL (Option String) (List Nat))) :=
  match x with
  | (tag_key, tag_values) => do
      let new_tags ← List.foldlM (remInner r_items tag_key) new_tags (items tag_values)
      pure new_tags

/-- tie of `IndexImpl._remove_tags` to its copies `remInner`, `remOuter` (evaluated by `remInner_ok`, `remove_tags_run`);
    repair: DESIGN.md 3.4, "When the translation changes" -/
theorem remove_tags_eq (g : GSelf) (r : List Nat) :
    IndexImpl._remove_tags g r
      = (do let nt ← List.foldlM (remOuter r) [] g._tags; pure { g with _tags := nt }) := by
  unfold IndexImpl._remove_tags items
  rfl

def keepL (r : List Nat) (l : List Nat) : List Nat := l.filter (fun i => !r.contains i)

/-- what `_remove_tags` does with one entry `(k, v) ↦ l` of the old dict: `new_tags[k][v] = kept`, unless nothing
    is kept -/
def remStep (r : List Nat) (nt : AL String (AL (Option String) (List Nat))) (k : String) (v : Option String)
    (l : List Nat) : AL String (AL (Option String) (List Nat)) :=
  if keepL r l = [] then nt else alter2 k v (keepL r l) (fun _ => keepL r l) nt

theorem remInner_ok (r : List Nat) (k : String) (nt : AL String (AL (Option String) (List Nat)))
    (v : Option String) (l : List Nat) :
    remInner r k nt (v, l) = .ok (remStep r nt k v l) := by
  rw [remStep, alter2_eq_setItem]
  unfold remInner
  simp only [isin_eq, truthy]
  change (if (!(!(keepL r l).isEmpty)) = true then _ else _) = _
  by_cases he : keepL r l = []
  · simp only [he, List.isEmpty_nil, Bool.not_true, Bool.not_false, ↓reduceIte]; rfl
  · have he' : (keepL r l).isEmpty = false := by simpa using he
    simp only [he, he', ↓reduceIte, Bool.not_false, Bool.not_true, Bool.false_eq_true]
    cases h1 : lookupAL k nt with
    | none => rfl
    | some d =>
      simp only [Option.isSome_some, Bool.not_true, Bool.false_eq_true, ↓reduceIte, Option.getD_some]
      rw [updItem_ok h1 (w := setItem d v (keepL r l)) rfl]

/-- the `new_tags` that `_remove_tags` builds: one pass over the entries of the old dict -/
def remTags (r : List Nat) (t : AL String (AL (Option String) (List Nat))) :
    AL String (AL (Option String) (List Nat)) :=
  (flatTags t).foldl (fun nt kv => remStep r nt kv.1.1 kv.1.2 (kv.2.map (·.1))) []

theorem remove_tags_run (g : GSelf) (r : List Nat) :
    IndexImpl._remove_tags g r = .ok { g with _tags := remTags r g._tags } := by
  rw [remove_tags_eq, remTags, foldl_flatTags (remStep r),
    foldlM_ok (remOuter r) (fun nt kd => kd.2.foldl (fun nt vl => remStep r nt kd.1 vl.1 vl.2) nt)]
  · rfl
  · intro nt kd
    obtain ⟨k, d⟩ := kd
    exact foldlM_ok (remInner r k) (fun nt vl => remStep r nt k vl.1 vl.2)
      (fun nt vl => remInner_ok r k nt vl.1 vl.2) d nt

theorem lookup2_remStep (r : List Nat) (nt : AL String (AL (Option String) (List Nat))) (k' : String)
    (v' : Option String) (l : List Nat) (k : String) (v : Option String) :
    lookup2 (remStep r nt k' v' l) k v
      = if (k = k' ∧ v = v') ∧ keepL r l ≠ [] then keepL r l else lookup2 nt k v := by
  unfold remStep
  by_cases he : keepL r l = []
  · rw [if_pos he, if_neg (fun h => h.2 he)]
  · rw [if_neg he, lookup2_alter2]
    by_cases h : k = k' ∧ v = v'
    · rw [if_pos h, if_pos ⟨h, he⟩]
    · rw [if_neg h, if_neg (fun h' => h h'.1)]

/-- a pass of assignments `t[k][v] = kept` (skipping empty ones) over entries with distinct keys: afterwards
    `t[k][v]` is what is kept of its entry, if it has one that was not skipped -/
theorem lookup2_foldl_remStep (r : List Nat) (es : PMap (String × Option String) Unit) (hnd : (keysAL es).Nodup)
    (nt : AL String (AL (Option String) (List Nat))) (k : String) (v : Option String) :
    lookup2 (es.foldl (fun nt kv => remStep r nt kv.1.1 kv.1.2 (kv.2.map (·.1))) nt) k v
      = if keepL r ((PMap.posting es (k, v)).map (·.1)) = [] then lookup2 nt k v
        else keepL r ((PMap.posting es (k, v)).map (·.1)) := by
  induction es generalizing nt with
  | nil => exact (if_pos rfl).symm
  | cons e t ih =>
    obtain ⟨⟨k', v'⟩, ps⟩ := e
    have hnd' : (k', v') ∉ keysAL t ∧ (keysAL t).Nodup := List.nodup_cons.mp hnd
    rw [List.foldl_cons, ih hnd'.2, lookup2_remStep, posting_cons]
    by_cases hkv : k = k' ∧ v = v'
    · -- the entry of `(k, v)` is the head; the tail has none
      obtain ⟨rfl, rfl⟩ := hkv
      have ht : PMap.posting t (k, v) = [] := by
        rw [PMap.posting, lookupAL_none_of_not_mem _ _ hnd'.1]; rfl
      rw [ht, if_pos (show keepL r (([] : List (Nat × Unit)).map (·.1)) = [] from rfl), if_pos (beq_self_eq_true _)]
      by_cases he : keepL r (ps.map (·.1)) = []
      · rw [if_pos he, if_neg (fun h => h.2 he)]
      · rw [if_neg he, if_pos ⟨⟨rfl, rfl⟩, he⟩]
    · have hb : ¬ ((k', v') == (k, v)) = true := fun e => hkv (by cases eq_of_beq e; exact ⟨rfl, rfl⟩)
      rw [if_neg hb, if_neg (show ¬ ((k = k' ∧ v = v') ∧ keepL r (ps.map (·.1)) ≠ []) from fun h => hkv h.1)]

theorem remTags_shape (r : List Nat) (t : AL String (AL (Option String) (List Nat))) :
    TagsWF (remTags r t) ∧ TagsNE (remTags r t) := by
  have step : ∀ (es : PMap (String × Option String) Unit) (nt : AL String (AL (Option String) (List Nat))),
      TagsWF nt → TagsNE nt →
      TagsWF (es.foldl (fun nt kv => remStep r nt kv.1.1 kv.1.2 (kv.2.map (·.1))) nt)
        ∧ TagsNE (es.foldl (fun nt kv => remStep r nt kv.1.1 kv.1.2 (kv.2.map (·.1))) nt) := by
    intro es
    induction es with
    | nil => intro nt hwf hne; exact ⟨hwf, hne⟩
    | cons e es ih =>
      intro nt hwf hne
      rw [List.foldl_cons]
      unfold remStep
      split
      · exact ih nt hwf hne
      · rename_i hk
        exact ih _ (tagsWF_alter2 _ _ _ _ (fun _ => hk) nt hwf) (tagsNE_alter2 _ _ _ _ nt hne)
  exact step (flatTags t) [] ⟨by simp [keysAL], by simp⟩ tagsNE_nil

theorem posting_remTags (r : List Nat) (t : AL String (AL (Option String) (List Nat))) (hwf : TagsWF t)
    (kv : String × Option String) :
    PMap.posting (flatTags (remTags r t)) kv = PMap.posting (PMap.remove (flatTags t) r.contains) kv := by
  obtain ⟨k, v⟩ := kv
  have hnd := (wfmap_flat _ hwf).1
  rw [posting_flat _ (remTags_shape r t).1.1, remTags, lookup2_foldl_remStep r _ hnd, posting_remove _ hnd,
    posting_flat _ hwf.1, map_fst_unitP, unitP_filter]
  show _ = unitP (keepL r (lookup2 t k v))
  split
  · rename_i h; rw [h]; simp [lookup2, lookupAL]
  · rfl

theorem remove_tags_ok (g : GSelf) (r : List Nat) (hwf : TagsWF g._tags) :
    ∃ X, IndexImpl._remove_tags g r = .ok { g with _tags := X }
      ∧ TagsWF X
      ∧ ∀ kv, PMap.posting (flatTags X) kv = PMap.posting (PMap.remove (flatTags g._tags) r.contains) kv :=
  ⟨_, remove_tags_run g r, (remTags_shape r _).1, posting_remTags r _ hwf⟩

def renInner (u : AL Nat Nat) (d : AL (Option String) (List Nat)) : AL (Option String) (List Nat) :=
  d.map (fun vl => (vl.1, vl.2.map (renum u)))
def renTags (u : AL Nat Nat) (t : AL String (AL (Option String) (List Nat))) :
    AL String (AL (Option String) (List Nat)) :=
  t.map (fun kd => (kd.1, renInner u kd.2))

/-- the translated body of the inner loop of `_update_tags` -/
def updInner (u_items : AL Nat Nat) (tag_key : String) (self : GSelf) (x : Option String × List Nat) : M GSelf :=
  match x with
  | (value, old_items) => do
          let rhs := (← List.mapM (fun i => ((if (isin i u_items) then (getItem u_items i) else (pure i)))) old_items)
          let self := { self with _tags := (← updItem self._tags tag_key (fun d0 => pure (setItem d0 value rhs))) }
          pure self

/-- the translated body of the outer loop of `_update_tags` -/
def updOuter (u_items : AL Nat Nat) (self : GSelf) (x : String × AL (Option String) (List Nat)) : M GSelf :=
  match x with
  | (tag_key, tag_values) => do
      let self ← List.foldlM (updInner u_items tag_key) self (items tag_values)
      pure self

/-- tie of `IndexImpl._update_tags` to its copies `updInner`, `updOuter` (evaluated by `update_tags_inner`, `update_tags_run`);
    repair: DESIGN.md 3.4, "When the translation changes" -/
theorem update_tags_eq (g : GSelf) (u : AL Nat Nat) :
    IndexImpl._update_tags g u = List.foldlM (updOuter u) g g._tags := by
  unfold IndexImpl._update_tags items
  rfl

/-- `items_loop` through the lens `self._tags[k]` -/
theorem update_tags_inner (u : AL Nat Nat) (k : String) (s : GSelf) (d : AL (Option String) (List Nat))
    (hd : (keysAL d).Nodup) (hk : lookupAL k s._tags = some d) :
    List.foldlM (updInner u k) s d = .ok { s with _tags := setItem s._tags k (renInner u d) } := by
  have hget : (lookupAL k s._tags).getD [] = d := by rw [hk]; rfl
  have := items_loop (σ := GSelf) (get := fun s => (lookupAL k s._tags).getD [])
    (set := fun s d' => { s with _tags := setItem s._tags k d' })
    (fun s d' => by simp only [lookupAL_setItem, beq_self_eq_true, ↓reduceIte, Option.getD_some])
    (fun s d' d'' => by simp only [setItem_setItem])
    (updInner u k) (fun l => l.map (renum u))
    s (by simp only [hget, setItem_of_lookup _ _ _ hk]) (by rw [hget]; exact hd)
    (fun s vl _ hv => by
      -- `self._tags[k]` is there, since it has an entry
      cases hks : lookupAL k s._tags with
      | none => rw [hks] at hv; cases hv
      | some d0 =>
        simp only [updInner, mapM_renum, bind_ok, Option.getD_some]
        rw [updItem_ok hks (w := setItem d0 vl.1 (vl.2.map (renum u))) rfl]; rfl)
  rw [hget] at this
  exact this

theorem update_tags_run (g : GSelf) (u : AL Nat Nat) (hwf : TagsWF g._tags) :
    IndexImpl._update_tags g u = .ok { g with _tags := renTags u g._tags } := by
  rw [update_tags_eq]
  exact items_loop (σ := GSelf) (get := fun s => s._tags) (set := fun s d => { s with _tags := d })
    (fun _ _ => rfl) (fun _ _ _ => rfl) (updOuter u) (renInner u) g rfl hwf.1
    (fun s kd hkd hk => by
      unfold updOuter
      dsimp only [items]
      rw [update_tags_inner u kd.1 s kd.2 (hwf.2 kd hkd).1 hk])

theorem tagsWF_renTags (u : AL Nat Nat) (t : AL String (AL (Option String) (List Nat))) (ht : TagsWF t) :
    TagsWF (renTags u t) := by
  constructor
  · rw [renTags, keys_map_snd]
    exact ht.1
  · intro kd hkd
    simp only [renTags, List.mem_map] at hkd
    obtain ⟨kd0, h0, rfl⟩ := hkd
    have h := ht.2 kd0 h0
    constructor
    · rw [renInner, keys_map_snd]
      exact h.1
    · intro vl hvl
      simp only [renInner, List.mem_map] at hvl
      obtain ⟨vl0, hv0, rfl⟩ := hvl
      simpa using h.2 vl0 hv0

theorem flatTags_renTags (u : AL Nat Nat) (t : AL String (AL (Option String) (List Nat))) :
    flatTags (renTags u t) = PMap.renumber (flatTags t) (renum u) := by
  simp only [flatTags, renTags, PMap.renumber, List.flatMap_map, List.map_flatMap, renInner, List.map_map,
    Function.comp_def, unitP]

theorem tagsNE_renTags (u : AL Nat Nat) (t : AL String (AL (Option String) (List Nat))) (ht : TagsNE t) :
    TagsNE (renTags u t) := by
  intro kd hkd
  simp only [renTags, List.mem_map] at hkd
  obtain ⟨kd0, h0, rfl⟩ := hkd
  have := ht kd0 h0
  simpa [renInner] using this

theorem update_tags_ok (g : GSelf) (u : AL Nat Nat) (hwf : TagsWF g._tags) :
    ∃ X, IndexImpl._update_tags g u = .ok { g with _tags := X }
      ∧ TagsWF X
      ∧ flatTags X = PMap.renumber (flatTags g._tags) (renum u) :=
  ⟨_, update_tags_run g u hwf, tagsWF_renTags u _ hwf, flatTags_renTags u _⟩

end TinyFlux.Mirror
