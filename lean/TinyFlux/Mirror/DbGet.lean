import TinyFlux.Mirror.Found
/-!
`get` of database.py (the method body, without the `read_op` decorator): like `search`, but it leaves its loop at the first
point found and answers `None` when there is none. Hence `OkSim` against the first element of the Model's `found`: the two
agree whenever the Model's evaluation of the query does not raise on a later row, which the code does not look at (and a
query never raises on a point: C09 `eval_never_raises`).
-/
namespace TinyFlux.Mirror
open TinyFlux.Model TinyFlux.Spec TinyFlux.Py.Typed
open TinyFlux.Generated
open TinyFlux.Generated.DatabaseImpl

/-- what `State.step` computes for `.get q m` once `readOp` has run (`model_get_is_step`) -/
def modelGet (s : State) (q : Query) (m : Option String) : Except Exc (Option Point) :=
  (s.found q m true).map (·.head?)

theorem model_get_is_step (s : State) (q : Query) (m : Option String) :
    (s.step (.get q m)).2 = State.outOf (modelGet s.readOp q m) (fun p => .point p) := by
  simp only [State.step, modelGet, State.outOf]
  cases State.found s.readOp q m true <;> rfl

/-- the translated tail of `get`: `if got_point:` narrows the `Optional[Point]` for the time check -/
def gFin (got_point : Option Point) : M (Option Point) :=
  match got_point with
  | none => do
    pure got_point
  | some got_point_some => do
    if (!(truthy (timeOf got_point_some))) then do
      throw PyErr.valueError
    else do
      pure got_point

/-- the translated body of the scan loop in `get` -/
def gScanBody (self : DSelf) (query : Query) (measurement : Option String) :
    Option Point × Bool → Point → M (Option Point × Bool) :=
  fun (got_point, brk) item => do
    if brk then pure (got_point, brk) else do
      if ((truthy measurement) && (!pyEq (Storage._deserialize_measurement self._storage item) measurement)) then do
        pure (got_point, brk)
      else do
        let _point := (Storage._deserialize_storage_item self._storage item)
        if (truthy (← modelExt.call query _point)) then do
          let got_point := some _point
          pure (got_point, true)
        else do
          pure (got_point, brk)

theorem gFin_eq (o : Option Point) : gFin o = .ok o := by
  cases o <;> rfl

/-- the scan path -/
def gScan (g : DSelf) (q : Query) (m : Option String) : M (Option Point) := do
  let (got_point, _) ← List.foldlM (gScanBody g q m) (none, false) (Storage.iter g._storage)
  pure got_point

theorem gScan_ok (g : DSelf) (q : Query) (m : Option String) :
    OkSim (gScan g q m >>= gFin) ((g._storage._items.filterM (State.scanSel q m)).map (·.head?)) := by
  refine OkSim.of_map fun l hl => ?_
  obtain ⟨brk, hfold⟩ := foldlM_first (State.scanSel q m) (gScanBody g q m) some (fun _ _ => rfl)
    (fun c a => scanSel_bind q m a _) none g._storage._items l hl
  unfold gScan Storage.iter
  rw [hfold]
  cases l <;> rfl

/-- the translated body of the loop over the positions found -/
def gIdxBody (self : DSelf) (items : List Nat) : Option Point × Bool → Nat × Point → M (Option Point × Bool) :=
  fun (got_point, brk) (i, item) => do
    if brk then pure (got_point, brk) else do
      if (!isin i items) then do
        pure (got_point, brk)
      else do
        let got_point := some (Storage._deserialize_storage_item self._storage item)
        pure (got_point, true)

theorem gIdxBody_eq (g : DSelf) (items : List Nat) (got : Option Point) (brk : Bool) (i : Nat) (p : Point) :
    gIdxBody g items (got, brk) (i, p) =
      .ok (if brk = true then (got, brk)
           else if items.contains i = true then (some p, true)
           else (got, brk)) := by
  unfold gIdxBody
  simp only [isin, Storage._deserialize_storage_item, pure, Except.pure]
  cases brk
  · by_cases hc : items.contains i = true
    · simp only [hc, Bool.not_true, Bool.false_eq_true, ↓reduceIte]
    · have hc' : items.contains i = false := by simpa using hc
      simp only [hc', Bool.not_false, Bool.false_eq_true, ↓reduceIte]
  · simp only [↓reduceIte]

theorem get_idx_brk (g : DSelf) (items : List Nat) (got : Option Point) :
    ∀ (l : List (Nat × Point)), List.foldlM (gIdxBody g items) (got, true) l = .ok (got, true) := by
  intro l
  induction l with
  | nil => rfl
  | cons a t ih =>
    obtain ⟨i, p⟩ := a
    rw [List.foldlM_cons, gIdxBody_eq]
    simp only [↓reduceIte, bind, Except.bind]
    exact ih

theorem get_idx_loop (g : DSelf) (items : List Nat) (rows : List Point) :
    ∀ (i : Nat), ∃ brk', List.foldlM (gIdxBody g items) (none, false) ((rows.zipIdx i).map (fun xi => (xi.2, xi.1)))
      = .ok ((selRows items rows i).head?, brk') := by
  induction rows with
  | nil =>
    intro i
    exact ⟨false, by simp [selRows, pure, Except.pure]⟩
  | cons p t ih =>
    intro i
    simp only [List.zipIdx_cons, List.map_cons, List.foldlM_cons, gIdxBody_eq, bind, Except.bind]
    rw [selRows_cons]
    by_cases hc : items.contains i = true
    · simp only [Bool.false_eq_true, hc, ↓reduceIte]
      exact ⟨true, by rw [get_idx_brk]; rfl⟩
    · simp only [Bool.false_eq_true, hc, ↓reduceIte]
      exact ih (i + 1)

/-- the loop over the positions found -/
def gIdxLoop (g : DSelf) (items : List Nat) : M (Option Point) := do
  let (got_point, _) ← List.foldlM (gIdxBody g items) (none, false) (enumerate (Storage.iter g._storage))
  pure got_point

theorem gIdxLoop_eq (norm : Point → Point) (g : DSelf) (items : List Nat) (hne : items ≠ []) :
    gIdxLoop g items = .ok ((absDB norm g).rowsAt items).head? := by
  have hl : items.length ≠ 0 := by cases items <;> simp at hne ⊢
  obtain ⟨brk', h⟩ := get_idx_loop g items g._storage._items 0
  unfold gIdxLoop enumerate Storage.iter
  rw [h]
  have : (absDB norm g).rowsAt items = (selRows items g._storage._items 0).take items.length := rfl
  rw [this, List.head?_take, if_neg hl]
  rfl

theorem gIdxLoop_agree (g : DSelf) {a b : List Nat} (h : Agree a b) : gIdxLoop g a = gIdxLoop g b := by
  have hb : gIdxBody g a = gIdxBody g b := by
    funext ⟨got, brk⟩ ⟨i, p⟩
    rw [gIdxBody_eq, gIdxBody_eq, h.2]
  unfold gIdxLoop
  rw [hb]

/-- on the scan path the generated text takes the loop's result apart and checks it in one step -/
theorem gScan_fin (g : DSelf) (q : Query) (m : Option String) :
    (List.foldlM (gScanBody g q m) (none, false) (Storage.iter g._storage) >>= fun r => gFin r.1)
      = gScan g q m >>= gFin := by
  unfold gScan
  cases List.foldlM (gScanBody g q m) (none, false) (Storage.iter g._storage) <;> rfl

/-- tie of `DatabaseImpl.get` to its copies `gFin`, `gScanBody`, `gScan`, `gIdxBody`, `gIdxLoop`, `useIndexCont` (evaluated by
    `gFin_eq`, `gScan_ok`, `gIdxBody_eq`, `gIdxLoop_eq`, `useIndexCont_eq`); repair: DESIGN.md 3.4, "When the translation changes" -/
theorem get_via (srch : GSelf → Query → M IndexResult) (g : DSelf) (q : Query) (m : Option String) :
    DatabaseImpl.get (extWith srch) g q m
      = via srch g q m (fun x => useIndexCont g true x (pure none) (gIdxLoop g x._items) (gScan g q m) gFin)
          (gScan g q m >>= gFin) := by
  rw [← gScan_fin]
  exact (via_eq srch g q m
      (fun x => useIndexCont g (g._index._valid && exact q) x (pure none) (gIdxLoop g x._items) (gScan g q m) gFin) _).trans
    (via_congr srch g q m _ fun hc => by rw [hc])

theorem get_cont_ok (norm : Point → Point) (g : DSelf) (q : Query) (m : Option String)
    (x : IndexResult) (items : List Nat) (h : Agree x._items items) :
    OkSim (useIndexCont g true x (pure none) (gIdxLoop g x._items) (gScan g q m) gFin)
      ((mFound (absDB norm g) q m items).map (·.head?)) := by
  rw [useIndexCont_eq g x items h, gIdxLoop_agree g h]
  unfold mFound
  show OkSim _ (Except.map _ (if items.isEmpty = true then _
    else if (items.length == g._index._num_items) = true then _ else _))
  by_cases he : items.isEmpty = true
  · rw [if_pos he, if_pos he]
    exact (ResSim.of_eq rfl).1
  · rw [if_neg he, if_neg he]
    by_cases hall : (items.length == g._index._num_items) = true
    · rw [if_pos hall, if_pos hall]
      exact gScan_ok g q m
    · rw [if_neg hall, if_neg hall, gIdxLoop_eq norm g items fun h0 => he (h0 ▸ rfl)]
      exact (ResSim.of_eq (gFin_eq _)).1

theorem db_get_sim (norm : Point → Point) (srch : GSelf → Query → M IndexResult) (g : DSelf) (q : Query) (m : Option String)
    (hs : SearchSim (srch g._index (idxQuery q m)) ((abs g._index).search (idxQuery q m))) :
    OkSim (DatabaseImpl.get (extWith srch) g q m) (modelGet (absDB norm g) q m) := by
  rw [get_via, modelGet, found_via]
  exact via_okSim norm srch g q m hs (get_cont_ok norm g q m) (gScan_ok g q m)

theorem db_get_ok (norm : Point → Point) (g : DSelf) (q : Query) (m : Option String) (r : Option Point)
    (h : modelGet (absDB norm g) q m = .ok r) :
    DatabaseImpl.get modelExt g q m = .ok r :=
  db_get_sim norm _ g q m (modelExt_sim _ _) r h

end TinyFlux.Mirror
