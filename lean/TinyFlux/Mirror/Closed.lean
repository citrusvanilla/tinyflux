import TinyFlux.Mirror.Translated
import TinyFlux.Mirror.DbCount
import TinyFlux.Mirror.DbSearch
import TinyFlux.Mirror.DbGet
/-!
`count`, `contains`, `search` and `get` (mirrored in `DbCount.lean`, `DbSearch.lean`, `DbGet.lean` over any search that answers
like the Model's) over `translatedExt`: the methods then run on translated code all the way down — `Index.search`,
`_search_helper`, the four leaf searches, `find_*`, `IndexResult`. What stays outside the translation is the evaluation of a
query on a point (`query(point)`, queries.py), `index_is_exact`, and the storage object (list level here, I/O level in
`Model/IO.lean`).
-/
namespace TinyFlux.Mirror
open TinyFlux.Model TinyFlux.Spec TinyFlux.Py.Typed
open TinyFlux.Generated

theorem count_closed (norm : Point → Point) (g : DSelf) (q : Query) (m : Option String)
    (hg : GWF g._index) (hts : g._index._timestamps.length = g._index._storage_pos_sorted_by_ts.length) :
    match modelCount (absDB norm g) q m with
    | .ok n => DatabaseImpl.count translatedExt g q m = .ok n
    | .error _ => ∃ e', DatabaseImpl.count translatedExt g q m = .error e' := by
  have h := count_sim norm _ g q m (translatedExt_sim _ hg hts _)
  cases hm : modelCount (absDB norm g) q m with
  | ok n => exact h.1 n hm
  | error e => exact h.2 e hm

theorem contains_closed (norm : Point → Point) (g : DSelf) (q : Query) (m : Option String) (b : Bool)
    (hg : GWF g._index) (hts : g._index._timestamps.length = g._index._storage_pos_sorted_by_ts.length)
    (h : modelContains (absDB norm g) q m = .ok b) :
    DatabaseImpl.contains translatedExt g q m = .ok b :=
  contains_sim norm _ g q m (translatedExt_sim _ hg hts _) b h

theorem db_search_closed (norm : Point → Point) (g : DSelf) (q : Query) (m : Option String) (sorted : Bool)
    (hg : GWF g._index) (hts : g._index._timestamps.length = g._index._storage_pos_sorted_by_ts.length) :
    match modelSearch (absDB norm g) q m sorted with
    | .ok l => DatabaseImpl.search translatedExt g q m sorted = .ok l
    | .error _ => ∃ e', DatabaseImpl.search translatedExt g q m sorted = .error e' := by
  have h := db_search_sim norm _ g q m sorted (translatedExt_sim _ hg hts _)
  cases hm : modelSearch (absDB norm g) q m sorted with
  | ok l => exact h.1 l hm
  | error e => exact h.2 e hm

theorem db_get_closed (norm : Point → Point) (g : DSelf) (q : Query) (m : Option String) (r : Option Point)
    (hg : GWF g._index) (hts : g._index._timestamps.length = g._index._storage_pos_sorted_by_ts.length)
    (h : modelGet (absDB norm g) q m = .ok r) :
    DatabaseImpl.get translatedExt g q m = .ok r :=
  db_get_sim norm _ g q m (translatedExt_sim _ hg hts _) r h

end TinyFlux.Mirror
