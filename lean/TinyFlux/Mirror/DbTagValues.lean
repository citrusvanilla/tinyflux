import TinyFlux.Mirror.DbGetters
/-!
`get_tag_values` of database.py. With a valid index: the translated index getter, every value list sorted (`None` last).
Otherwise a scan: the requested keys (sorted, each once) start with no values, every stored point of the measurement
contributes the values of its requested tags (of all its tags when no key was requested), and every value list is sorted at
the end.
-/
namespace TinyFlux.Mirror
open TinyFlux.Model TinyFlux.Spec TinyFlux.Py.Typed
open TinyFlux.Generated

def modelTagValues (s : State) (keys : List String) (m : Option String) : AL String (List (Option String)) :=
  let sortV (l : List (Option String)) := l.mergeSort optStrLe
  if s.index.valid then
    (s.index.getTagValues keys (effMeas m)).map (fun kv => (kv.1, sortV kv.2))
  else
    let init : AL String (List (Option String)) := (sortStr (dedup keys)).map (fun k => (k, []))
    let add (acc : AL String (List (Option String))) (k : String) (v : Option String) :=
      alterAL k [] (fun vs => if vs.contains v then vs else vs ++ [v]) acc
    let r := (State.restrictM s.storage m).foldl (fun acc p =>
      p.tags.foldl (fun acc kv =>
        if !keys.isEmpty && !keys.contains kv.1 then acc else add acc kv.1 kv.2) acc) init
    r.map (fun kv => (kv.1, sortV kv.2))

theorem model_tag_values_is_step (s : State) (keys : List String) (m : Option String) :
    (s.step (.getTagValues keys m)).2 = .tagVals (modelTagValues s.readOp keys m) := by
  cases h : s.readOp.index.valid <;> simp only [State.step, modelTagValues, h] <;> rfl

namespace DbTV

theorem keys_init (l : List String) : keysAL (l.map (fun k => (k, ([] : List (Option String))))) = l := by
  simp [keysAL, Function.comp_def]

theorem getTagValues_nodup (i : Index) (keys : List String) (m : Option String) :
    (keysAL (i.getTagValues keys m)).Nodup := by
  rw [getTagValues_eq_fold]
  exact (fold_addTV _ _ (by rw [keys_init]; exact nodup_dedup _)
    fun k => by rw [valsAL_init]; exact List.nodup_nil).1

/-- duplicate-free value lists with the same members (`SameSet`, for tag values) -/
def VV (x y : List (Option String)) : Prop := x.Nodup ∧ y.Nodup ∧ ∀ v, v ∈ x ↔ v ∈ y
/-- the same keys in the same order, the value lists equal as sets (`VV`): what holds between the dict the generated scan
    builds (`gadd`) and the Model's (`addTV`); sorting the value lists then makes the two equal (`tvRel_sort`) -/
inductive TVRel : TV → TV → Prop
  | nil : TVRel [] []
  | cons {x y : String × List (Option String)} {ta tb : TV} : (x.1 = y.1 ∧ VV x.2 y.2) → TVRel ta tb → TVRel (x :: ta) (y :: tb)

def gadd (acc : TV) (k : String) (v : Option String) : TV :=
  setItem acc k (match lookupAL k acc with | some vs => setUnion vs [v] | none => [v])
theorem gadd_eq (acc : TV) (k : String) (v : Option String) :
    gadd acc k v = alterAL k [] (fun vs => dedup (vs ++ [v])) acc := by
  induction acc with
  | nil => simp [gadd, lookupAL, setItem, alterAL, dedup]
  | cons a t ih =>
    obtain ⟨k', v'⟩ := a
    by_cases hk : (k' == k) = true
    · simp [gadd, lookupAL, setItem, alterAL, hk, setUnion]
    · simp only [gadd, setItem] at ih
      simp only [gadd, lookupAL, setItem, alterAL, hk, Bool.false_eq_true, ↓reduceIte, ih]

/-- the generated step re-deduplicates (the new value moves to the end), the Model's is `setAdd`: the same set -/
theorem VV_step (x y : List (Option String)) (v : Option String) (h : VV x y) :
    VV (dedup (x ++ [v])) (if y.contains v then y else y ++ [v]) :=
  ⟨nodup_dedup _, nodup_setAdd y v h.2.1, fun w => by
    rw [mem_dedup, List.mem_append, List.mem_singleton, h.2.2]
    exact (mem_setAdd y v w).symm⟩

theorem tvRel_alter (k : String) (g f : List (Option String) → List (Option String))
    (h0 : VV (g []) (f [])) (hs : ∀ x y, VV x y → VV (g x) (f y)) (a b : TV) (h : TVRel a b) :
    TVRel (alterAL k [] g a) (alterAL k [] f b) := by
  induction h with
  | nil => exact TVRel.cons ⟨rfl, h0⟩ TVRel.nil
  | @cons x y ta tb hxy hr ih =>
    obtain ⟨kx, vx⟩ := x
    obtain ⟨ky, vy⟩ := y
    obtain ⟨h1, h2⟩ := hxy
    simp only at h1 h2
    subst h1
    simp only [alterAL]
    split
    · exact TVRel.cons ⟨rfl, hs _ _ h2⟩ hr
    · exact TVRel.cons ⟨rfl, h2⟩ ih

theorem VV_nil : VV [] [] := ⟨List.nodup_nil, List.nodup_nil, fun _ => Iff.rfl⟩

theorem tvRel_step (a b : TV) (k : String) (v : Option String) (h : TVRel a b) : TVRel (gadd a k v) (addTV b k v) := by
  rw [gadd_eq]
  exact tvRel_alter k (fun vs => dedup (vs ++ [v])) (fun vs => if vs.contains v then vs else vs ++ [v])
    (VV_step _ _ v VV_nil) (fun x y hxy => VV_step x y v hxy) a b h

/-- what one scanned point contributes: the values of its requested tags (of all its tags when no key was requested),
    added with `add` (`gadd`: as generated, `addTV`: as the Model has it) -/
def tvPoint (add : TV → String → Option String → TV) (keys : List String) (acc : TV) (p : Point) : TV :=
  p.tags.foldl (fun acc kv => if (!keys.isEmpty && !keys.contains kv.1) = true then acc else add acc kv.1 kv.2) acc

theorem tvPoint_gen (keys : List String) (acc : TV) (p : Point) :
    List.foldlM (fun (rst : TV) ((tk, tv) : String × Option String) => (do
        if ((truthy keys) && (!isin tk keys)) then do
          pure rst
        else do
          let rhs := (← (if (isin tk rst) then (do pure (setUnion (← getItem rst tk) (mkSet [tv]))) else (pure (mkSet [tv]))))
          let rst := (setItem rst tk rhs)
          pure rst : M TV)) acc p.tags = .ok (tvPoint gadd keys acc p) := by
  refine foldlM_ok _ _ (fun acc kv => ?_) _ _
  show (if (!keys.isEmpty && !keys.contains kv.1) = true then _ else _) = _
  by_cases hc : (!keys.isEmpty && !keys.contains kv.1) = true
  · rw [if_pos hc, if_pos hc]; rfl
  · rw [if_neg hc, if_neg hc]
    cases hl : lookupAL kv.1 acc <;>
      simp [isin, getItem, gadd, hl, dedup, mkSet, pure, Except.pure, bind, Except.bind]

theorem tvPoint_rel (keys : List String) (a b : TV) (p : Point) (h : TVRel a b) :
    TVRel (tvPoint gadd keys a p) (tvPoint addTV keys b p) := by
  refine List.foldl_rel (r := TVRel) h fun kv _ a b hab => ?_
  by_cases hc : (!keys.isEmpty && !keys.contains kv.1) = true
  · rw [if_pos hc, if_pos hc]; exact hab
  · rw [if_neg hc, if_neg hc]; exact tvRel_step a b kv.1 kv.2 hab

theorem tvPoint_nodup (keys : List String) (acc : TV) (p : Point) (h : (keysAL acc).Nodup) :
    (keysAL (tvPoint addTV keys acc p)).Nodup := by
  refine List.foldlRecOn (motive := fun acc => (keysAL acc).Nodup) p.tags _ h fun acc hacc kv _ => ?_
  by_cases hc : (!keys.isEmpty && !keys.contains kv.1) = true
  · rw [if_pos hc]; exact hacc
  · rw [if_neg hc]; exact nodup_keys_alterAL _ _ _ _ hacc

theorem tvRel_keys (a b : TV) (h : TVRel a b) : keysAL a = keysAL b := by
  induction h with
  | nil => rfl
  | cons hxy _ ih => simp only [keysAL, List.map_cons] at ih ⊢; rw [hxy.1, ih]

theorem tvRel_sort (a b : TV) (h : TVRel a b) :
    a.map (fun kv => (kv.1, sortedOptStr kv.2)) = b.map (fun kv => (kv.1, kv.2.mergeSort optStrLe)) := by
  induction h with
  | nil => rfl
  | cons hxy _ ih =>
    simp only [List.map_cons, sortedOptStr] at ih ⊢
    rw [ih, hxy.1, sortOpt_congr _ _ hxy.2.1 hxy.2.2.1 hxy.2.2.2]

theorem tvRel_init (l : List String) : TVRel (l.map (fun k => (k, []))) (l.map (fun k => (k, []))) := by
  induction l with
  | nil => exact TVRel.nil
  | cons a t ih => exact TVRel.cons ⟨rfl, VV_nil⟩ ih

theorem map_pair_eq {α β γ : Type} (f : β → γ) (l : List (α × β)) :
    List.map (fun (x : α × β) => match x with | (i, j) => (i, f j)) l = l.map (fun kv => (kv.1, f kv.2)) := rfl

theorem keys_map_snd {V W : Type} (f : V → W) (l : AL String V) :
    keysAL (l.map (fun kv => (kv.1, f kv.2))) = keysAL l :=
  TinyFlux.Mirror.keys_map_snd f l

end DbTV
open DbTV DbG

theorem db_get_tag_values_ok (norm : Point → Point) (g : DSelf) (hg : GWF g._index) (hne : TagsNE g._index._tags)
    (keys : List String) (hk : keys.Nodup) (m : Option String) (hm : m ≠ some "") :
    DatabaseImpl.get_tag_values g keys m = .ok (modelTagValues (absDB norm g) keys m) := by
  unfold modelTagValues
  rw [effMeas_of_ne m hm]
  refine valid_dispatch g _ _ _ _ ?_ ?_
  · rw [get_tag_values_ok g._index hg hne keys hk m hm]
    show Except.ok (dictOf _) = _
    rw [dictOf_eq_self]
    · rfl
    · rw [Mirror.keys_map_snd]; exact getTagValues_nodup _ _ _
  · have hd : dedup keys = keys := dedup_of_nodup keys hk
    have hinit : dictOf (List.map (fun i => (i, ([] : List (Option String)))) (sortedStr keys))
        = (sortStr keys).map (fun k => (k, [])) :=
      dictOf_nodup [] (sortStr keys) (nodup_sortStr _ hk)
    show (List.foldlM _ (dictOf (List.map _ (sortedStr (mkSet keys)))) (Storage.iter g._storage) >>= _) = _
    rw [show mkSet keys = keys from hd, hd, hinit]
    rw [scan_fold g._storage m _ (tvPoint gadd keys)]
    · have hR : TVRel (List.foldl (tvPoint gadd keys) _ (State.restrictM g._storage._items m))
          (List.foldl (tvPoint addTV keys) _ (State.restrictM g._storage._items m)) :=
        List.foldl_rel (tvRel_init (sortStr keys)) fun p _ a b hab => tvPoint_rel keys a b p hab
      show Except.ok (dictOf _) = Except.ok _
      rw [dictOf_eq_self]
      · exact congrArg Except.ok (tvRel_sort _ _ hR)
      · show (keysAL (List.map _ (List.foldl (tvPoint gadd keys) _ (State.restrictM g._storage._items m)))).Nodup
        rw [Mirror.keys_map_snd, tvRel_keys _ _ hR]
        refine List.foldlRecOn (motive := fun acc => (keysAL acc).Nodup) _ _ ?_ fun acc hacc p _ =>
          tvPoint_nodup keys acc p hacc
        rw [keys_init]; exact nodup_sortStr _ hk
    · intro acc p
      show (if _ then (pure acc : M TV) else List.foldlM _ acc p.tags) = _
      rw [tvPoint_gen]
      rfl

end TinyFlux.Mirror
