import TinyFlux.Mirror.Via
/-!
`count` and `contains` of database.py. What is translated is the method body: the `read_op` decorator (which rebuilds an
invalid index when auto-indexing) is `State.readOp` in the Model. `*_sim` is the method over any `self._index.search` that
answers like the Model's, `*_ok` over the Model's own.
-/
namespace TinyFlux.Mirror
open TinyFlux.Model TinyFlux.Spec TinyFlux.Py.Typed
open TinyFlux.Generated

/-- what `State.step` computes for `.count q m` once `readOp` has run -/
def modelCount (s : State) (q : Query) (m : Option String) : Except Exc Nat :=
  if s.index.valid && exact q then (s.indexSearch q m).map (·.length)
  else (s.storage.filterM (State.scanSel q m)).map (·.length)

/-- what `State.step` computes for `.contains q m` once `readOp` has run -/
def modelContains (s : State) (q : Query) (m : Option String) : Except Exc Bool :=
  if s.index.valid && exact q then (s.indexSearch q m).map (fun items => !items.isEmpty)
  else (s.storage.filterM (State.scanSel q m)).map (fun l => !l.isEmpty)

theorem model_count_is_step (s : State) (q : Query) (m : Option String) :
    (s.step (.count q m)).2 = State.outOf (modelCount s.readOp q m) (fun n => .nat n)
    ∧ (s.step (.contains q m)).2 = State.outOf (modelContains s.readOp q m) (fun b => .bool b) := by
  have hmap : ∀ {α β : Type} (x : Except Exc α) (f : α → β) (k : β → Out),
      State.outOf (x.map f) k = State.outOf x (fun a => k (f a)) := fun x _ _ => by cases x <;> rfl
  unfold modelCount modelContains
  constructor <;> simp only [State.step] <;> cases (s.readOp.index.valid && exact q) <;> exact (hmap _ _ _).symm

theorem modelCount_via (s : State) (q : Query) (m : Option String) :
    modelCount s q m = mVia s q m (fun items => pure items.length)
      ((s.storage.filterM (State.scanSel q m)).map (·.length)) :=
  mVia_map s q m _ _

/-- the translated body of the scan loop in `count` -/
def countBody (g : DSelf) (q : Query) (m : Option String) : Nat → Point → M Nat :=
  fun count item => do
        if ((truthy m) && (!(pyEq (Storage._deserialize_measurement g._storage item) m))) then do
          pure count
        else do
          let count ← (if (truthy (← modelExt.call q (Storage._deserialize_storage_item g._storage item))) then do
            let count := count + 1
            pure count
          else do
            pure count
          )
          pure count

/-- tie of `DatabaseImpl.count` to its copy `countBody` (evaluated by `count_scan`); repair: DESIGN.md 3.4, "When the translation changes" -/
theorem count_via (srch : GSelf → Query → M IndexResult) (g : DSelf) (q : Query) (m : Option String) :
    DatabaseImpl.count (extWith srch) g q m
      = via srch g q m (fun r => pure r._items.length) (List.foldlM (countBody g q m) 0 g._storage._items) :=
  via_eq srch g q m _ _

theorem count_scan (g : DSelf) (q : Query) (m : Option String) :
    List.foldlM (countBody g q m) 0 g._storage._items
      = liftE ((g._storage._items.filterM (State.scanSel q m)).map (·.length)) := by
  rw [foldlM_sel (State.scanSel q m) (countBody g q m) (fun c _ => c + 1) (fun c a => scanSel_bind q m a _)]
  simp only [List.foldl_add_const, Nat.one_mul, Nat.zero_add]

theorem count_sim (norm : Point → Point) (srch : GSelf → Query → M IndexResult) (g : DSelf) (q : Query) (m : Option String)
    (hs : SearchSim (srch g._index (idxQuery q m)) ((abs g._index).search (idxQuery q m))) :
    ResSim (DatabaseImpl.count (extWith srch) g q m) (modelCount (absDB norm g) q m) := by
  rw [count_via, modelCount_via]
  exact via_sim norm srch g q m hs (fun x items h => .of_eq (congrArg Except.ok h.1)) (.of_eq (count_scan g q m))

theorem count_ok (norm : Point → Point) (g : DSelf) (q : Query) (m : Option String) :
    DatabaseImpl.count modelExt g q m = liftE (modelCount (absDB norm g) q m) := by
  rw [modelCount_via]
  exact (count_via _ g q m).trans (via_model norm g q m (fun _ _ => rfl) (count_scan g q m))

/-- the translated body of the scan loop in `contains` -/
def containsBody (g : DSelf) (q : Query) (m : Option String) : Bool × Bool → Point → M (Bool × Bool) :=
  fun (contains, brk) item => do
        if brk then pure (contains, brk) else do
          if ((truthy m) && (!pyEq (Storage._deserialize_measurement g._storage item) m)) then do
            pure (contains, brk)
          else do
            if (truthy (← modelExt.call q (Storage._deserialize_storage_item g._storage item))) then do
              let contains := true
              pure (contains, true)
            else do
              pure (contains, brk)

/-- the scan path of `contains` -/
def containsScan (g : DSelf) (q : Query) (m : Option String) : M Bool := do
    let (contains, _) ← List.foldlM (containsBody g q m) (false, false) (Storage.iter g._storage)
    pure contains

/-- tie of `DatabaseImpl.contains` to its copies `containsBody`, `containsScan` (evaluated by `containsScan_ok`);
    repair: DESIGN.md 3.4, "When the translation changes" -/
theorem contains_via (srch : GSelf → Query → M IndexResult) (g : DSelf) (q : Query) (m : Option String) :
    DatabaseImpl.contains (extWith srch) g q m
      = via srch g q m (fun r => pure (decide (r._items.length > 0))) (containsScan g q m) :=
  via_eq srch g q m _ _

theorem containsScan_ok (g : DSelf) (q : Query) (m : Option String) :
    OkSim (containsScan g q m) ((g._storage._items.filterM (State.scanSel q m)).map fun l => !l.isEmpty) := by
  refine OkSim.of_map fun r hr => ?_
  obtain ⟨_, hfold⟩ := foldlM_first (State.scanSel q m) (containsBody g q m) (fun _ => true) (fun _ _ => rfl)
    (fun c a => scanSel_bind q m a _) false g._storage._items r hr
  unfold containsScan Storage.iter
  rw [hfold]
  cases r <;> rfl

/-- `contains` leaves its loop at the first match, the Model looks at every row: they agree whenever the Model's
    evaluation does not raise (and a query never raises on a point: C09 `eval_never_raises`) -/
theorem contains_sim (norm : Point → Point) (srch : GSelf → Query → M IndexResult) (g : DSelf) (q : Query) (m : Option String)
    (hs : SearchSim (srch g._index (idxQuery q m)) ((abs g._index).search (idxQuery q m))) :
    OkSim (DatabaseImpl.contains (extWith srch) g q m) (modelContains (absDB norm g) q m) := by
  rw [contains_via, modelContains, mVia_map]
  refine via_okSim norm srch g q m hs (fun x items h b hb => ?_) (containsScan_ok g q m)
  cases hb
  show Except.ok (decide (x._items.length > 0)) = Except.ok (!items.isEmpty)
  rw [h.1]
  cases items <;> rfl

theorem contains_ok (norm : Point → Point) (g : DSelf) (q : Query) (m : Option String) (b : Bool)
    (h : modelContains (absDB norm g) q m = .ok b) :
    DatabaseImpl.contains modelExt g q m = .ok b :=
  contains_sim norm _ g q m (modelExt_sim _ _) b h

end TinyFlux.Mirror
