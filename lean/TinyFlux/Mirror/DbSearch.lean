import TinyFlux.Mirror.Found
/-!
`search` of database.py (the method body, without the `read_op` decorator): the type check of the query (every Model `Query`
is one: `is_query` is constantly `true`, so its `raise` is not exercised), index path and scan path as in `Mirror/Found.lean`
(the loop over the positions found leaves once all are seen), the check that every found point has a time, and the stable
sort by time when `sorted` is asked for.
-/
namespace TinyFlux.Mirror
open TinyFlux.Model TinyFlux.Spec TinyFlux.Py.Typed
open TinyFlux.Generated

open TinyFlux.Generated.DatabaseImpl

/-- what `State.step` computes for `.search q m sorted` once `readOp` has run (`model_search_is_step`) -/
def modelSearch (s : State) (q : Query) (m : Option String) (sorted : Bool) : Except Exc (List Point) :=
  (s.found q m true).map (fun l => if sorted then State.sortByTime l else l)

theorem model_search_is_step (s : State) (q : Query) (m : Option String) (sorted : Bool) :
    (s.step (.search q m sorted)).2 = State.outOf (modelSearch s.readOp q m sorted) (fun l => .points l) := by
  simp only [State.step, modelSearch, State.outOf]
  cases State.found s.readOp q m true <;> rfl

/-- the translated tail of `search`: the time check and the optional sort -/
def sFin (sorted : Bool) (found_points : List Point) : M (List Point) := do
  let _ ← List.foldlM (fun (_ : Unit) fp => do
      if (!(truthy (timeOf fp))) then do
        throw PyErr.valueError
      else do
        pure ()
    ) () found_points
  let found_points ← (if (truthy sorted) then do
    let found_points := sortedBy (fun x => (timeOf x).us) found_points
    pure found_points
  else do
    pure found_points
  )
  pure found_points

/-- a Model point always has a time, so the check never raises -/
theorem time_check_ok (l : List Point) :
    List.foldlM (fun (_ : Unit) (fp : Point) => (do
      if (!(truthy (timeOf fp))) then do
        throw PyErr.valueError
      else do
        pure () : M Unit)) () l = .ok () :=
  foldlM_ok _ (fun _ _ => ()) (fun _ _ => rfl) l ()

theorem sortedBy_time (l : List Point) : sortedBy (fun x => (timeOf x).us) l = State.sortByTime l := rfl

theorem sFin_eq (sorted : Bool) (l : List Point) :
    sFin sorted l = .ok (if sorted then State.sortByTime l else l) := by
  unfold sFin
  rw [time_check_ok]
  cases sorted <;> rfl

/-- the translated body of the scan loop in `search` -/
def sScanBody (self : DSelf) (query : Query) (measurement : Option String) : List Point → Point → M (List Point) :=
  fun found_points item => do
    if ((truthy measurement) && (!pyEq (Storage._deserialize_measurement self._storage item) measurement)) then do
      pure found_points
    else do
      let _point := (Storage._deserialize_storage_item self._storage item)
      let found_points ← (if (truthy (← modelExt.call query _point)) then do
        let found_points := (append found_points _point)
        pure found_points
      else do
        pure found_points
      )
      pure found_points

/-- the scan path -/
def sScan (g : DSelf) (q : Query) (m : Option String) : M (List Point) :=
  List.foldlM (sScanBody g q m) [] (Storage.iter g._storage)

theorem sScan_eq (g : DSelf) (q : Query) (m : Option String) :
    sScan g q m = liftE (g._storage._items.filterM (State.scanSel q m)) := by
  unfold sScan Storage.iter
  rw [foldlM_sel (State.scanSel q m) (sScanBody g q m) (fun acc a => acc ++ [a]) (fun c a => scanSel_bind q m a _)]
  simp only [List.foldl_append_eq_append, ← List.flatMap_def, List.flatMap_singleton', List.nil_append]
  cases g._storage._items.filterM (State.scanSel q m) <;> rfl

/-- the translated body of the loop over the positions found -/
def sIdxBody (self : DSelf) (items : List Nat) : List Point × Nat × Bool → Nat × Point → M (List Point × Nat × Bool) :=
  fun (found_points, j, brk) (i, item) => do
    if brk then pure (found_points, j, brk) else do
      if (!isin i items) then do
        pure (found_points, j, brk)
      else do
        let found_points := (append found_points (Storage._deserialize_storage_item self._storage item))
        let j := j + 1
        if (j == (len items)) then do
          pure (found_points, j, true)
        else do
          pure (found_points, j, brk)

theorem sIdxBody_eq (g : DSelf) (items : List Nat) (found : List Point) (j : Nat) (brk : Bool) (i : Nat) (p : Point) :
    sIdxBody g items (found, j, brk) (i, p) =
      .ok (if brk = true then (found, j, brk)
           else if items.contains i = true then (found ++ [p], j + 1, j + 1 == items.length)
           else (found, j, brk)) := by
  unfold sIdxBody
  simp only [Py.Typed.len, isin, Py.Typed.append, Storage._deserialize_storage_item, pure, Except.pure]
  cases brk
  · by_cases hc : items.contains i = true
    · by_cases hj : (j + 1 == items.length) = true
      · simp only [hc, hj, Bool.not_true, Bool.false_eq_true, ↓reduceIte]
      · have hj' : (j + 1 == items.length) = false := by simpa using hj
        simp only [hc, hj', Bool.not_true, Bool.false_eq_true, ↓reduceIte]
    · have hc' : items.contains i = false := by simpa using hc
      simp only [hc', Bool.not_false, Bool.false_eq_true, ↓reduceIte]
  · simp only [↓reduceIte]

/-- from the row numbered `i`, with `j` of the positions seen: the loop adds the rows at positions in `items` until it has seen
    `items.length` of them (`take`), which is when it sets `brk` (the invariant `brk = true ↔ j = items.length`) -/
theorem search_idx_loop (g : DSelf) (items : List Nat) (rows : List Point) :
    ∀ (i : Nat) (found : List Point) (j : Nat) (brk : Bool), j ≤ items.length → (brk = true ↔ j = items.length) →
    ∃ j' brk', List.foldlM (sIdxBody g items) (found, j, brk) ((rows.zipIdx i).map (fun xi => (xi.2, xi.1)))
      = .ok (found ++ (selRows items rows i).take (items.length - j), j', brk') := by
  induction rows with
  | nil =>
    intro i found j brk _ _
    exact ⟨j, brk, by simp [selRows, pure, Except.pure]⟩
  | cons p t ih =>
    intro i found j brk hj hb
    rw [List.zipIdx_cons, List.map_cons, List.foldlM_cons, sIdxBody_eq, bind_ok, selRows_cons]
    cases brk with
    | true =>
      -- all of `items` seen: nothing more is taken
      obtain ⟨j', brk', h⟩ := ih (i + 1) found j true hj hb
      exact ⟨j', brk', by rw [if_pos rfl, h, hb.1 rfl, Nat.sub_self, List.take_zero, List.take_zero]⟩
    | false =>
      have hjn : j < items.length := Nat.lt_of_le_of_ne hj (fun h => Bool.false_ne_true (hb.2 h))
      rw [if_neg Bool.false_ne_true]
      by_cases hc : items.contains i = true
      · obtain ⟨j', brk', h⟩ := ih (i + 1) (found ++ [p]) (j + 1) (j + 1 == items.length) hjn beq_iff_eq
        refine ⟨j', brk', ?_⟩
        rw [if_pos hc, if_pos hc, h, show items.length - j = (items.length - (j + 1)) + 1 by omega,
          List.take_succ_cons, List.append_assoc]
        rfl
      · rw [if_neg hc, if_neg hc]
        exact ih (i + 1) found j false hj hb

/-- the loop over the positions found -/
def sIdxLoop (g : DSelf) (items : List Nat) : M (List Point) := do
  let (found_points, _, _) ← List.foldlM (sIdxBody g items) ([], 0, false) (enumerate (Storage.iter g._storage))
  pure found_points

theorem sIdxLoop_eq (norm : Point → Point) (g : DSelf) (items : List Nat) (hne : items ≠ []) :
    sIdxLoop g items = .ok ((absDB norm g).rowsAt items) := by
  have hl : items.length ≠ 0 := by cases items <;> simp at hne ⊢
  obtain ⟨j', brk', h⟩ := search_idx_loop g items g._storage._items 0 [] 0 false (by omega) (by simp; omega)
  unfold sIdxLoop enumerate Storage.iter
  rw [h]
  rfl

theorem sIdxLoop_agree (g : DSelf) {a b : List Nat} (h : Agree a b) : sIdxLoop g a = sIdxLoop g b := by
  have hb : sIdxBody g a = sIdxBody g b := by
    funext ⟨found, j, brk⟩ ⟨i, p⟩
    rw [sIdxBody_eq, sIdxBody_eq, h.1, h.2]
  unfold sIdxLoop
  rw [hb]

/-- tie of `DatabaseImpl.search` to its copies `sFin`, `sScanBody`, `sScan`, `sIdxBody`, `sIdxLoop`, `useIndexCont` (evaluated by
    `sFin_eq`, `sScan_eq`, `sIdxBody_eq`, `sIdxLoop_eq`, `useIndexCont_eq`); repair: DESIGN.md 3.4, "When the translation changes" -/
theorem search_via (srch : GSelf → Query → M IndexResult) (g : DSelf) (q : Query) (m : Option String) (sorted : Bool) :
    DatabaseImpl.search (extWith srch) g q m sorted
      = via srch g q m
          (fun x => useIndexCont g true x (pure []) (sIdxLoop g x._items) (sScan g q m) (sFin sorted))
          (sScan g q m >>= sFin sorted) :=
  (via_eq srch g q m
      (fun x => useIndexCont g (g._index._valid && exact q) x (pure []) (sIdxLoop g x._items) (sScan g q m) (sFin sorted))
      _).trans
    (via_congr srch g q m _ fun hc => by rw [hc])

theorem modelSearch_via (s : State) (q : Query) (m : Option String) (sorted : Bool) :
    modelSearch s q m sorted = mVia s q m
      (fun items => (mFound s q m items).map fun l => if sorted then State.sortByTime l else l)
      ((s.storage.filterM (State.scanSel q m)).map fun l => if sorted then State.sortByTime l else l) :=
  found_via s q m _

theorem scan_fin_ok (norm : Point → Point) (g : DSelf) (q : Query) (m : Option String) (sorted : Bool) :
    sScan g q m >>= sFin sorted
      = liftE (((absDB norm g).storage.filterM (State.scanSel q m)).map
          (fun l => if sorted then State.sortByTime l else l)) := by
  rw [sScan_eq]
  show liftE (g._storage._items.filterM (State.scanSel q m)) >>= sFin sorted
    = liftE ((g._storage._items.filterM (State.scanSel q m)).map _)
  cases List.filterM (State.scanSel q m) g._storage._items with
  | error e => rfl
  | ok l => exact sFin_eq sorted l

theorem search_cont_ok (norm : Point → Point) (g : DSelf) (q : Query) (m : Option String) (sorted : Bool)
    (x : IndexResult) (items : List Nat) (h : Agree x._items items) :
    useIndexCont g true x (pure []) (sIdxLoop g x._items) (sScan g q m) (sFin sorted)
      = liftE ((mFound (absDB norm g) q m items).map fun l => if sorted then State.sortByTime l else l) := by
  rw [useIndexCont_eq g x items h, sIdxLoop_agree g h]
  unfold mFound
  show _ = liftE (Except.map _ (if items.isEmpty = true then _
    else if (items.length == g._index._num_items) = true then _ else _))
  by_cases he : items.isEmpty = true
  · rw [if_pos he, if_pos he]
    cases sorted
    · rfl
    · exact congrArg Except.ok (by simp [State.sortByTime])
  · rw [if_neg he, if_neg he]
    by_cases hall : (items.length == g._index._num_items) = true
    · rw [if_pos hall, if_pos hall]
      exact scan_fin_ok norm g q m sorted
    · rw [if_neg hall, if_neg hall, sIdxLoop_eq norm g items fun h0 => he (h0 ▸ rfl)]
      exact sFin_eq sorted _

theorem db_search_sim (norm : Point → Point) (srch : GSelf → Query → M IndexResult) (g : DSelf) (q : Query)
    (m : Option String) (sorted : Bool)
    (hs : SearchSim (srch g._index (idxQuery q m)) ((abs g._index).search (idxQuery q m))) :
    ResSim (DatabaseImpl.search (extWith srch) g q m sorted) (modelSearch (absDB norm g) q m sorted) := by
  rw [search_via, modelSearch_via]
  exact via_sim norm srch g q m hs (fun x items h => .of_eq (search_cont_ok norm g q m sorted x items h))
    (.of_eq (scan_fin_ok norm g q m sorted))

theorem db_search_ok (norm : Point → Point) (g : DSelf) (q : Query) (m : Option String) (sorted : Bool) :
    DatabaseImpl.search modelExt g q m sorted = liftE (modelSearch (absDB norm g) q m sorted) := by
  rw [modelSearch_via]
  exact (search_via _ g q m sorted).trans
    (via_model norm g q m (fun items c => search_cont_ok norm g q m sorted _ items Agree.rfl) (scan_fin_ok norm g q m sorted))

end TinyFlux.Mirror
