import TinyFlux.Mirror.Eval
import TinyFlux.Lemmas.Search
/-!
The three leaf searches of the translated `Index`, run on the query object of a Model leaf. `measQuery / tagQuery /
fieldQuery` say what the index uses of a query object (queries.py is not translated; tied by the C09 correspondence):
`_path_resolver` looks the key up in the one-entry dict it is handed (`KeyError` for another key) and applies the `map`
functions of the path (any exception is caught by the caller); `_test` is the test of the leaf that remains.
The loops collect into a Python `set`: `Adds` says what one iteration contributes, `Adds.sameSet` compares the result
with the Model's list.
-/
namespace TinyFlux.Mirror
open TinyFlux.Model TinyFlux.Spec TinyFlux.Py.Typed
open TinyFlux.Generated

def stripMaps : Leaf → Leaf
  | .map _ t => stripMaps t
  | l => l

def resolver (l : Leaf) (v : PyV) : Except Unit PyV :=
  match resolveMaps l v with
  | .ok (_, v') => .ok v'
  | .error _ => .error ()

def testOf (l : Leaf) (v : PyV) : M Bool :=
  match testLeaf (stripMaps l) v with
  | .ok b => .ok b
  | .error _ => .error .typeError

def measQuery (l : Leaf) : SimpleQuery :=
  { _path_resolver := fun a => match a with | .meas s => resolver l (.str s) | _ => .error ()
    _test := testOf l }
def tagQuery (k : String) (l : Leaf) : SimpleQuery :=
  { _path_resolver := fun a => match a with
      | .tag k' v => if k' == k then resolver l (ofOptStr v) else .error ()
      | _ => .error ()
    _test := testOf l }
def fieldQuery (k : String) (l : Leaf) : SimpleQuery :=
  { _path_resolver := fun a => match a with
      | .field k' v => if k' == k then resolver l (ofOptNum v) else .error ()
      | _ => .error ()
    _test := testOf l }

/-- same members, no duplicates: equal as Python sets -/
def SameSet (a b : List Nat) : Prop := a.Nodup ∧ b.Nodup ∧ ∀ x, x ∈ a ↔ x ∈ b

theorem sameSet_refl {a : List Nat} (h : a.Nodup) : SameSet a a := ⟨h, h, fun _ => Iff.rfl⟩

theorem sameSet_foldl_setAdd (l : List Nat) : SameSet (l.foldl setAdd []) (dedup l) := by
  obtain ⟨hn, hm⟩ := foldl_setAdd l [] List.nodup_nil
  refine ⟨hn, nodup_dedup _, fun x => ?_⟩
  rw [hm, mem_dedup]
  exact ⟨fun h => h.elim (fun h0 => nomatch h0) id, Or.inr⟩

theorem sameSet_diff {a a' b b' : List Nat} (ha : SameSet a a') (hb : ∀ x, x ∈ b ↔ x ∈ b') :
    SameSet (setDiff a b) (a'.filter (fun p => !b'.contains p)) := by
  obtain ⟨na, na', ma⟩ := ha
  refine ⟨na.filter _, na'.filter _, fun x => ?_⟩
  simp only [setDiff, List.mem_filter, ma, Bool.not_eq_true', ← Bool.not_eq_true, List.contains_iff_mem, hb]

theorem sameSet_inter {a a' b b' : List Nat} (ha : SameSet a a') (hb : SameSet b b') :
    SameSet (setInter a b) (Index.inter a' b') := by
  obtain ⟨na, na', ma⟩ := ha
  obtain ⟨_, _, mb⟩ := hb
  refine ⟨na.filter _, na'.filter _, ?_⟩
  intro x
  simp only [setInter, Index.inter, List.mem_filter, List.contains_iff_mem, ma, mb]

theorem sameSet_union {a a' b b' : List Nat} (ha : SameSet a a') (hb : SameSet b b') :
    SameSet (setUnion a b) (Index.union a' b') := by
  obtain ⟨_, _, ma⟩ := ha
  obtain ⟨_, _, mb⟩ := hb
  refine ⟨nodup_dedup _, nodup_dedup _, ?_⟩
  intro x
  simp only [setUnion, Index.union, mem_dedup, List.mem_append, ma, mb]

theorem sameSet_range (n : Nat) : SameSet (mkSet (range n)) (List.range n) := by
  refine ⟨nodup_dedup _, List.nodup_range, ?_⟩
  intro x
  simp only [mem_mkSet, range]

theorem sameSet_compl (n : Nat) {a a' : List Nat} (ha : SameSet a a') :
    SameSet (setDiff (mkSet (range n)) a) (Index.compl n a') :=
  sameSet_diff (sameSet_range n) ha.2.2

/-- the same set, or both raise (which exception is not compared) -/
def Sim (gen : M (List Nat)) (mod : Except Exc (List Nat)) : Prop :=
  match mod with
  | .ok r' => ∃ r, gen = .ok r ∧ SameSet r r'
  | .error _ => ∃ e, gen = .error e

theorem resolver_testOf (l : Leaf) (v : PyV) :
    (resolver l v = .error () ∧ l.eval v = false) ∨
      ∃ v', resolver l v = .ok v' ∧ testOf l v' = .ok (l.eval v) := by
  induction l generalizing v with
  | map g t ih =>
    cases h : g v with
    | none => exact .inl (by simp [resolver, resolveMaps, Leaf.eval, h, throw, throwThe, MonadExceptOf.throw])
    | some v' =>
      have e1 : resolver (.map g t) v = resolver t v' := by simp [resolver, resolveMaps, h]
      have e2 : (Leaf.map g t).eval v = t.eval v' := by simp [Leaf.eval, h]
      rw [e1, e2]
      exact ih v'
  | cmp c rhs => exact .inr ⟨v, rfl, by simp [testOf, stripMaps, testLeaf_cmp, Leaf.eval]⟩
  | regex r => exact .inr ⟨v, rfl, by cases v <;> simp [testOf, stripMaps, testLeaf, Leaf.eval, pure, Except.pure]⟩
  | _ => exact .inr ⟨v, rfl, by simp [testOf, stripMaps, testLeaf, Leaf.eval, pure, Except.pure]⟩

/-- one iteration of the loop body the leaf searches share: resolve the path, test, add (`leaf_loop` is the loop) -/
theorem step_eq (q : SimpleQuery) (a : PathArg) (c : Bool) (l : Leaf) (v : PyV) (f : List Nat → List Nat)
    (acc : List Nat)
    (hr : q._path_resolver a = if c then resolver l v else .error ()) (ht : q._test = testOf l) :
    (match q._path_resolver a with
      | .error _ => (pure acc : M (List Nat))
      | .ok test_value => do
        let t ← q._test test_value
        if truthy t = true then pure (f acc) else pure acc) = .ok (if c && l.eval v then f acc else acc) := by
  rw [hr, ht]
  cases c with
  | false => rfl
  | true =>
    obtain h | ⟨v', h1, h2⟩ := resolver_testOf l v
    · simp [h.1, h.2, pure, Except.pure]
    · simp only [if_true, h1, h2, bind, Except.bind, pure, Except.pure, truthy, id, Bool.true_and]
      split <;> rfl

/-- the loop shared by the leaf searches: entry `e` resolves (if at all: `c e`) to `v e`, and is added by `f` if it passes -/
theorem leaf_loop {α : Type} (q : SimpleQuery) (l : Leaf) (ht : q._test = testOf l) (arg : α → PathArg)
    (c : α → Bool) (v : α → PyV) (hr : ∀ e, q._path_resolver (arg e) = if c e then resolver l (v e) else .error ())
    (f : List Nat → α → List Nat) (es : List α) (acc : List Nat) :
    es.foldlM (fun acc e =>
      match q._path_resolver (arg e) with
      | .error _ => (pure acc : M (List Nat))
      | .ok test_value => do
        let t ← q._test test_value
        if truthy t = true then pure (f acc e) else pure acc) acc =
    .ok (es.foldl (fun acc e => if c e && l.eval (v e) then f acc e else acc) acc) :=
  foldlM_ok _ _ (fun b e => step_eq q (arg e) (c e) l (v e) (fun a => f a e) b (hr e) ht) es acc

theorem fold_mem {α : Type} (g : List Nat → α → List Nat) (P : α → Nat → Prop)
    (hm : ∀ acc e x, x ∈ g acc e ↔ x ∈ acc ∨ P e x)
    (l : List α) (acc : List Nat) (x : Nat) :
    x ∈ l.foldl g acc ↔ x ∈ acc ∨ ∃ e ∈ l, P e x := by
  induction l generalizing acc with
  | nil => simp
  | cons e t ih =>
    simp only [List.foldl_cons]
    rw [ih, hm]
    simp only [List.mem_cons, exists_eq_or_imp, or_assoc]

theorem fold_nodup {α : Type} (g : List Nat → α → List Nat)
    (hn : ∀ acc e, acc.Nodup → (g acc e).Nodup)
    (l : List α) (acc : List Nat) (hacc : acc.Nodup) : (l.foldl g acc).Nodup := by
  induction l generalizing acc with
  | nil => exact hacc
  | cons e t ih => exact ih _ (hn acc e hacc)

/-- what one step of a collecting loop adds to the set gathered so far -/
structure Adds {α : Type} (step : List Nat → α → List Nat) (P : α → Nat → Prop) : Prop where
  nodup : ∀ acc e, acc.Nodup → (step acc e).Nodup
  mem : ∀ acc e x, x ∈ step acc e ↔ x ∈ acc ∨ P e x

theorem adds_setAdd {α : Type} (i : α → Nat) : Adds (fun acc e => setAdd acc (i e)) (fun e x => x = i e) :=
  ⟨fun acc e => nodup_setAdd acc (i e), fun acc e x => mem_setAdd acc (i e) x⟩

theorem adds_setUnion {α : Type} (s : α → List Nat) :
    Adds (fun acc e => setUnion acc (mkSet (s e))) (fun e x => x ∈ s e) :=
  ⟨fun acc e _ => nodup_setUnion acc _, fun acc e x => by rw [mem_setUnion, mem_mkSet]⟩

theorem Adds.ite {α : Type} {step : List Nat → α → List Nat} {P : α → Nat → Prop} (h : Adds step P) (c : α → Bool) :
    Adds (fun acc e => if c e then step acc e else acc) (fun e x => c e = true ∧ P e x) := by
  refine ⟨fun acc e hacc => ?_, fun acc e x => ?_⟩
  · split
    · exact h.nodup acc e hacc
    · exact hacc
  · cases hc : c e
    · simp
    · simp [h.mem]

theorem Adds.fold {α β : Type} {sub : α → List β} {step : α → List Nat → β → List Nat} {P : α → β → Nat → Prop}
    (h : ∀ e, Adds (step e) (P e)) :
    Adds (fun acc e => (sub e).foldl (step e) acc) (fun e x => ∃ b ∈ sub e, P e b x) :=
  ⟨fun acc e => fold_nodup _ (h e).nodup (sub e) acc, fun acc e x => fold_mem _ _ (h e).mem (sub e) acc x⟩

theorem Adds.sameSet {α : Type} {step : List Nat → α → List Nat} {P : α → Nat → Prop} (h : Adds step P)
    (l : List α) {r' : List Nat} (hn : r'.Nodup) (hm : ∀ x, x ∈ r' ↔ ∃ e ∈ l, P e x) :
    SameSet (l.foldl step []) r' := by
  refine ⟨fold_nodup step h.nodup l [] List.nodup_nil, hn, fun x => ?_⟩
  rw [fold_mem step P h.mem, hm]
  simp

theorem mem_filterMap_ite {α : Type} (c : α → Bool) (i : α → Nat) (l : List α) (x : Nat) :
    x ∈ l.filterMap (fun e => if c e then some (i e) else none) ↔ ∃ e ∈ l, c e = true ∧ x = i e := by
  simp only [List.mem_filterMap, Option.ite_none_right_eq_some, Option.some.injEq, eq_comm (a := x)]

theorem mem_flatten_map_ite {α : Type} (c : α → Bool) (s : α → List Nat) (l : List α) (x : Nat) :
    x ∈ (l.map (fun e => if c e then s e else [])).flatten ↔ ∃ e ∈ l, c e = true ∧ x ∈ s e := by
  simp only [List.mem_flatten, List.mem_map]
  constructor
  · rintro ⟨_, ⟨e, he, rfl⟩, hx⟩
    cases hc : c e
    · simp [hc] at hx
    · exact ⟨e, he, hc, by simpa [hc] using hx⟩
  · rintro ⟨e, he, hc, hx⟩
    exact ⟨_, ⟨e, he, rfl⟩, by simpa [hc] using hx⟩

theorem search_fields_ok (g : GSelf) (hg : GWF g) (k : String) (l : Leaf) :
    ∃ r r', IndexImpl._search_fields g (fieldQuery k l) = .ok r ∧ (abs g).searchFields k l = .ok r' ∧ SameSet r r' := by
  have hgen : IndexImpl._search_fields g (fieldQuery k l) = .ok
      (g._fields.foldl (fun acc e => e.2.foldl (fun acc (ip : Nat × Option Num) =>
        if (e.1 == k && l.eval (ofOptNum ip.2)) then setAdd acc ip.1 else acc) acc) []) :=
    foldlM_ok _ _ (fun b (e : String × List (Nat × Option Num)) =>
      leaf_loop (fieldQuery k l) l rfl (fun ip : Nat × Option Num => entryArg e.1 ip.2) (fun _ => e.1 == k)
        (fun ip => ofOptNum ip.2) (fun _ => rfl) (fun acc ip => setAdd acc ip.1) e.2 b) _ _
  refine ⟨_, _, hgen, searchFields_eq (abs g) k l, ?_⟩
  refine (Adds.fold fun e : String × List (Nat × Option Num) =>
    (adds_setAdd (α := Nat × Option Num) (·.1)).ite _).sameSet _ (nodup_dedup _) fun x => ?_
  rw [mem_dedup, mem_filterMap_ite]
  simp only [mem_posting g._fields hg.fields, abs, Bool.and_eq_true, beq_iff_eq]
  constructor
  · rintro ⟨ip, ⟨e, he, hk, hip⟩, h⟩
    exact ⟨e, he, ip, hip, ⟨hk, h.1⟩, h.2⟩
  · rintro ⟨e, he, ip, hip, ⟨hk, hh⟩, hx⟩
    exact ⟨ip, ⟨e, he, hk, hip⟩, hh, hx⟩

theorem mem_unitP_fst (l : List Nat) (x : Nat) : x ∈ (unitP l).map (·.1) ↔ x ∈ l := by simp [unitP]

theorem search_measurement_ok (g : GSelf) (hg : GWF g) (l : Leaf) :
    ∃ r r', IndexImpl._search_measurement g (measQuery l) = .ok r ∧ (abs g).searchMeas l = .ok r' ∧ SameSet r r' := by
  have _ := hg  -- not needed: the two sides are compared as sets whatever the shape of the state
  have hgen : IndexImpl._search_measurement g (measQuery l) = .ok
      (g._measurements.foldl (fun acc e => if (true && l.eval (.str e.1)) then setUnion acc (mkSet e.2) else acc) []) :=
    leaf_loop (measQuery l) l rfl (fun e : String × List Nat => toArg e.1) (fun _ => true)
      (fun e => .str e.1) (fun _ => rfl) (fun acc e => setUnion acc (mkSet e.2)) g._measurements []
  refine ⟨_, _, hgen, searchMeas_eq (abs g) l, ?_⟩
  refine ((adds_setUnion (α := String × List Nat) (·.2)).ite _).sameSet _ (nodup_dedup _) fun x => ?_
  rw [mem_dedup, mem_flatten_map_ite]
  constructor
  · rintro ⟨kv, hkv, hc, hx⟩
    obtain ⟨e, he, rfl⟩ := List.mem_map.mp hkv
    exact ⟨e, he, hc, (mem_unitP_fst _ _).mp hx⟩
  · rintro ⟨e, he, hc, hx⟩
    exact ⟨_, List.mem_map.mpr ⟨e, he, rfl⟩, hc, (mem_unitP_fst _ _).mpr hx⟩

theorem search_tags_ok (g : GSelf) (hg : GWF g) (k : String) (l : Leaf) :
    ∃ r r', IndexImpl._search_tags g (tagQuery k l) = .ok r ∧ (abs g).searchTags k l = .ok r' ∧ SameSet r r' := by
  have _ := hg  -- not needed, as for `search_measurement_ok`
  have hgen : IndexImpl._search_tags g (tagQuery k l) = .ok
      (g._tags.foldl (fun acc e => e.2.foldl (fun acc (vl : Option String × List Nat) =>
        if (e.1 == k && l.eval (ofOptStr vl.1)) then setUnion acc (mkSet vl.2) else acc) acc) []) :=
    foldlM_ok _ _ (fun b (e : String × AL (Option String) (List Nat)) =>
      leaf_loop (tagQuery k l) l rfl (fun vl : Option String × List Nat => entryArg e.1 vl.1) (fun _ => e.1 == k)
        (fun vl => ofOptStr vl.1) (fun _ => rfl) (fun acc vl => setUnion acc (mkSet vl.2)) e.2 b) _ _
  refine ⟨_, _, hgen, searchTags_eq (abs g) k l, ?_⟩
  refine (Adds.fold fun e : String × AL (Option String) (List Nat) =>
    (adds_setUnion (α := Option String × List Nat) (·.2)).ite _).sameSet _ (nodup_dedup _) fun x => ?_
  rw [mem_dedup, mem_flatten_map_ite]
  constructor
  · rintro ⟨kv, hkv, hc, hx⟩
    obtain ⟨e, he, hkv⟩ := List.mem_flatMap.mp hkv
    obtain ⟨vl, hvl, rfl⟩ := List.mem_map.mp hkv
    exact ⟨e, he, vl, hvl, hc, (mem_unitP_fst _ _).mp hx⟩
  · rintro ⟨e, he, vl, hvl, hc, hx⟩
    exact ⟨_, List.mem_flatMap.mpr ⟨e, he, List.mem_map.mpr ⟨vl, hvl, rfl⟩⟩, hc, (mem_unitP_fst _ _).mpr hx⟩

end TinyFlux.Mirror
