import TinyFlux.Mirror.Search
/-!
`Index._search_timestamps`: the choice of the operator (`query._operator if query.is_hashable() else None`, kept only for an
aware `datetime` to compare with), six bisection branches over the *translated* `find_*` of utils.py (C18) — with the scan of
the run of equal timestamps for `==` / `!=` (a `while` loop, translated as the bounded scan it is) — and the generic branch
that tests every timestamp. `timeQuery` states what the index uses of a time query object (queries.py is not translated; tied
by the C01 / C08 / C09 correspondence): a comparison leaf is hashable and carries its operator and, for an aware datetime,
its instant; a `map` in the path makes the query unhashable; any other test is not one of the six operators.
-/
namespace TinyFlux.Mirror
open TinyFlux.Model TinyFlux.Spec TinyFlux.Py.Typed
open TinyFlux.Generated

def opOf : Cmp → Operator
  | .eq => .eq | .ne => .ne | .lt => .lt | .le => .le | .gt => .gt | .ge => .ge

def timeQuery (l : Leaf) : SimpleQuery :=
  { _path_resolver := fun a => match a with | .time t => resolver l (.time t.us) | _ => .error ()
    _test := testOf l
    _operator := match l with | .cmp c _ => opOf c | _ => .other
    hashable := match l with | .map _ _ => false | _ => true
    _rhs := match l with | .cmp _ (.time x) => .aware ⟨x⟩ | _ => .other }

namespace SearchTime

theorem findIn_findPos (f) (ts : List Int) (x : Int) :
    findIn f ts x = match Index.findPos f ts x with | .ok v => .ok v | .error _ => .error .typeError := by
  unfold findIn Index.findPos
  cases f (.list ts) (.int x) with
  | error e => rfl
  | ok v =>
    cases v with
    | int n => by_cases hn : 0 ≤ n <;> simp only [hn, if_true, if_false] <;> rfl
    | _ => rfl

/-- every bisection arm of `cmp_time_sim` / `sim_order` goes through this -/
theorem sim_find (f : Py.V → Py.V → Except Py.PyErr Py.V) (ts : List Int) (x : Int)
    {kg : Option Nat → M (List Nat)} {km : Option Nat → Except Exc (List Nat)}
    (h : ∀ v, Index.findPos f ts x = .ok v → Sim (kg v) (km v)) :
    Sim (findIn f ts x >>= kg) (Index.findPos f ts x >>= km) := by
  rw [findIn_findPos]
  cases hp : Index.findPos f ts x with
  | ok v => exact h v hp
  | error e => exact ⟨_, rfl⟩

theorem find_eq_some (ts : List Int) (x : Int) (m : Nat)
    (h : Index.findPos Generated.find_eq ts x = .ok (some m)) : ∃ hm : m < ts.length, ts[m] = x := by
  rw [Index.findPos, Py.find_eq_eq] at h
  by_cases hx : ts[Py.bisectLeftNat ts x]? = some x
  · cases (by simpa [hx, pure, Except.pure] using h : Py.bisectLeftNat ts x = m)
    exact List.getElem?_eq_some_iff.mp hx
  · rw [if_neg hx] at h
    cases h

/-- the translated body of the `while` loop of `==` / `!=` -/
def scanStep (ts : List Int) (pos : List Nat) (rhs : Rhs) : (List Nat × Bool) → Nat → M (List Nat × Bool) :=
  fun (results, brk) match_ => do
          if brk then pure (results, brk) else do
            if ((← getItem ts match_) != (← Rhs.timestamp rhs)) then do
              pure (results, true)
            else do
              let results ← pure (setAdd results (← getItem pos match_))
              pure (results, brk)

theorem scan_brk (ts : List Int) (pos : List Nat) (rhs : Rhs) (r : List Nat) (l : List Nat) :
    l.foldlM (scanStep ts pos rhs) (r, true) = .ok (r, true) := by
  induction l with
  | nil => rfl
  | cons a t ih => exact ih

theorem scanStep_eq {ts : List Int} {pos : List Nat} {s : Nat} {tp : Int × Nat} (ht : ts[s]? = some tp.1)
    (hp : pos[s]? = some tp.2) (x : Int) (r : List Nat) :
    scanStep ts pos (.aware ⟨x⟩) (r, false) s = .ok (if tp.1 = x then (setAdd r tp.2, false) else (r, true)) := by
  by_cases hx : tp.1 = x
  · simp [scanStep, getItem_of_getElem? ht, getItem_of_getElem? hp, Rhs.timestamp, hx, bind, Except.bind,
      pure, Except.pure]
  · simp [scanStep, getItem_of_getElem? ht, Rhs.timestamp, hx, bind, Except.bind, pure, Except.pure]

/-- the `while` loop from `s` on adds the positions of the run of timestamps equal to `x` that starts at `s` -/
theorem scan_run (ts : List Int) (pos : List Nat) (x : Int) (zl : List (Int × Nat)) :
    ∀ (s : Nat) (r : List Nat), (ts.zip pos).drop s = zl →
    ∃ b, (List.range' s zl.length).foldlM (scanStep ts pos (.aware ⟨x⟩)) (r, false) =
      .ok (((zl.takeWhile (fun tp => tp.1 == x)).map (·.2)).foldl setAdd r, b) := by
  induction zl with
  | nil => exact fun s r _ => ⟨false, rfl⟩
  | cons tp zl ih =>
    intro s r hz
    have hs : (ts.zip pos)[s]? = some tp := by
      rw [← Nat.add_zero s, ← List.getElem?_drop, hz]
      rfl
    obtain ⟨ht, hp⟩ := List.getElem?_zip_eq_some.mp hs
    rw [List.length_cons, List.range'_succ, List.foldlM_cons, scanStep_eq ht hp, bind_ok]
    by_cases hx : tp.1 = x
    · rw [if_pos hx, List.takeWhile_cons_of_pos (by simpa using hx)]
      exact ih (s + 1) (setAdd r tp.2) (by rw [List.drop_add_one_eq_tail_drop, hz]; rfl)
    · rw [if_neg hx, List.takeWhile_cons_of_neg (by simpa using hx)]
      exact ⟨true, scan_brk ts pos _ r _⟩

/-- `match_ = find_*(ts, rhs)`, then one arm for `None` and one for a position -/
def bisected (f : Py.V → Py.V → Except Py.PyErr Py.V) (ts : List Int) (x : Int) (none_ : List Nat)
    (some_ : Nat → M (List Nat)) : M (List Nat) := do
  match ← findIn f ts x with
  | none => pure none_
  | some m => some_ m

/-- the scan of the run of equal timestamps started at the match `m`, and what `==` / `!=` do with its result -/
def scanThen (g : GSelf) (rhs : Rhs) (k : List Nat → List Nat) (m : Nat) : M (List Nat) := do
  let p ← getItem g._storage_pos_sorted_by_ts m
  let rb ← (List.range' (m + 1) (g._timestamps.length - (m + 1))).foldlM
    (scanStep g._timestamps g._storage_pos_sorted_by_ts rhs) (mkSet [p], false)
  pure (k rb.1)

/-- the last arm: every timestamp is tested -/
def everyTs (g : GSelf) (q : SimpleQuery) : M (List Nat) :=
  List.foldlM (fun items (e : Nat × Int) =>
      match q._path_resolver (toArg (fromtimestamp e.2)) with
      | .error _ => pure items
      | .ok test_value => do
        let t ← q._test test_value
        if truthy t = true then pure (setAdd items e.1) else pure items)
    [] (List.zip g._storage_pos_sorted_by_ts g._timestamps)

/-- `op`: the operator of a hashable query whose right-hand side is an aware datetime -/
def effOp (q : SimpleQuery) : Option Operator :=
  let op := (if (truthy q.hashable) then some q._operator else none)
  if ((truthy (Rhs.isDatetime q._rhs)) && (truthy (Rhs.tzinfo q._rhs))) then op else none

/-- the `if op == operator.eq: … elif …` chain of `_search_timestamps`, its arms named -/
def tsArms (g : GSelf) (q : SimpleQuery) (op : Option Operator) : M (List Nat) :=
  let ts := g._timestamps
  let pos := g._storage_pos_sorted_by_ts
  if pyEq op Operator.eq then do
    bisected Generated.find_eq ts (← Rhs.timestamp q._rhs) [] (scanThen g q._rhs id)
  else if pyEq op Operator.ne then do
    bisected Generated.find_eq ts (← Rhs.timestamp q._rhs) (mkSet pos) (scanThen g q._rhs (setDiff (mkSet pos)))
  else if pyEq op Operator.lt then do
    bisected Generated.find_lt ts (← Rhs.timestamp q._rhs) [] (fun m => pure (mkSet (sliceTo pos (m + 1))))
  else if pyEq op Operator.le then do
    bisected Generated.find_le ts (← Rhs.timestamp q._rhs) [] (fun m => pure (mkSet (sliceTo pos (m + 1))))
  else if pyEq op Operator.gt then do
    bisected Generated.find_gt ts (← Rhs.timestamp q._rhs) [] (fun m => pure (mkSet (sliceFrom pos m)))
  else if pyEq op Operator.ge then do
    bisected Generated.find_ge ts (← Rhs.timestamp q._rhs) [] (fun m => pure (mkSet (sliceFrom pos m)))
  else everyTs g q

/-- tie of `IndexImpl._search_timestamps` to its copies `tsArms`, `effOp`, `bisected`, `scanThen`, `scanStep`, `everyTs` (evaluated by
    `tsArms_some`, `effOp_aware`, `effOp_other`, `scanStep_eq`, `scanThen_ok`, `everyTs_sim`); repair: DESIGN.md 3.4, "When the translation changes" -/
theorem search_ts_eq (g : GSelf) (q : SimpleQuery) :
    IndexImpl._search_timestamps g q = tsArms g q (effOp q) := rfl

theorem effOp_aware {q : SimpleQuery} {t : DateTime} (hh : q.hashable = true) (hr : q._rhs = .aware t) :
    effOp q = some q._operator := by
  simp [effOp, hh, hr, Rhs.isDatetime, Rhs.tzinfo, truthy]

theorem effOp_other {q : SimpleQuery} (hr : q._rhs = .other) : effOp q = none := by
  simp [effOp, hr, Rhs.isDatetime, truthy]

theorem tsArms_some (g : GSelf) (q : SimpleQuery) (x : Int) (o : Operator) (hr : q._rhs = .aware ⟨x⟩) :
    tsArms g q (some o) =
      let ts := g._timestamps
      let pos := g._storage_pos_sorted_by_ts
      match o with
      | .eq => bisected Generated.find_eq ts x [] (scanThen g (.aware ⟨x⟩) id)
      | .ne => bisected Generated.find_eq ts x (mkSet pos) (scanThen g (.aware ⟨x⟩) (setDiff (mkSet pos)))
      | .lt => bisected Generated.find_lt ts x [] (fun m => pure (mkSet (sliceTo pos (m + 1))))
      | .le => bisected Generated.find_le ts x [] (fun m => pure (mkSet (sliceTo pos (m + 1))))
      | .gt => bisected Generated.find_gt ts x [] (fun m => pure (mkSet (sliceFrom pos m)))
      | .ge => bisected Generated.find_ge ts x [] (fun m => pure (mkSet (sliceFrom pos m)))
      | .other => everyTs g q := by
  unfold tsArms
  simp only [hr, Rhs.timestamp, pyEq, pure_bind]
  cases o <;> rfl

/-- the four order comparisons: one bisection, then a slice `k m` of the position array -/
theorem sim_order (f : Py.V → Py.V → Except Py.PyErr Py.V) (ts : List Int) (x : Int) (k : Nat → List Nat) :
    Sim (bisected f ts x [] (fun m => pure (mkSet (k m))))
      (do match ← Index.findPos f ts x with
          | none => pure []
          | some m => pure (dedup (k m))) :=
  sim_find f ts x fun v _ => by
    cases v with
    | none => exact ⟨_, rfl, sameSet_refl List.nodup_nil⟩
    | some m => exact ⟨_, rfl, sameSet_refl (nodup_dedup _)⟩

theorem scanThen_ok (g : GSelf) (hts : g._timestamps.length = g._storage_pos_sorted_by_ts.length)
    (x : Int) (k : List Nat → List Nat) (m : Nat) (hm : m < g._timestamps.length) (hx : g._timestamps[m] = x) :
    scanThen g (.aware ⟨x⟩) k m = .ok (k (((abs g).equalRun m x).foldl setAdd [])) := by
  have hm' : m < g._storage_pos_sorted_by_ts.length := hts ▸ hm
  have hp := List.getElem?_eq_getElem hm'
  have hs : (g._timestamps.zip g._storage_pos_sorted_by_ts)[m]? =
      some (g._timestamps[m], g._storage_pos_sorted_by_ts[m]) :=
    List.getElem?_zip_eq_some.mpr ⟨List.getElem?_eq_getElem hm, hp⟩
  obtain ⟨hz, he⟩ := List.getElem?_eq_some_iff.mp hs
  obtain ⟨b, hb⟩ := scan_run g._timestamps g._storage_pos_sorted_by_ts x _ (m + 1)
    [g._storage_pos_sorted_by_ts[m]] rfl
  rw [List.length_drop, List.length_zip, ← hts, Nat.min_self] at hb
  have hrun : (abs g).equalRun m x = g._storage_pos_sorted_by_ts[m] ::
      (((g._timestamps.zip g._storage_pos_sorted_by_ts).drop (m + 1)).takeWhile (fun tp => tp.1 == x)).map (·.2) := by
    unfold Index.equalRun abs
    rw [List.drop_eq_getElem_cons hz, he, List.takeWhile_cons_of_pos (by simpa using hx)]
    rfl
  unfold scanThen
  rw [getItem_of_getElem? hp, hrun]
  exact congrArg (fun r => r >>= fun rb => pure (k rb.1)) hb

theorem everyTs_sim (g : GSelf) (l : Leaf) : Sim (everyTs g (timeQuery l)) (searchTsGeneric (abs g) l) := by
  rw [searchTsGeneric_eq]
  have hgen : everyTs g (timeQuery l) = .ok
      ((g._storage_pos_sorted_by_ts.zip g._timestamps).foldl (fun acc e =>
        if (true && l.eval (.time e.2)) then setAdd acc e.1 else acc) []) :=
    leaf_loop (timeQuery l) l rfl (fun e : Nat × Int => toArg (fromtimestamp e.2)) (fun _ => true)
      (fun e => .time e.2) (fun _ => rfl) (fun acc e => setAdd acc e.1) _ []
  refine ⟨_, hgen, ?_⟩
  exact ((adds_setAdd (α := Nat × Int) (·.1)).ite _).sameSet _ (nodup_dedup _) fun x => by
    rw [mem_dedup, mem_filterMap_ite]
    exact Iff.rfl

theorem cmp_time_sim (g : GSelf) (hts : g._timestamps.length = g._storage_pos_sorted_by_ts.length) (c : Cmp) (x : Int) :
    Sim (IndexImpl._search_timestamps g (timeQuery (.cmp c (.time x)))) ((abs g).searchTs (.cmp c (.time x))) := by
  rw [search_ts_eq, effOp_aware rfl rfl, tsArms_some g _ x _ rfl]
  cases c with
  | eq =>
    -- `Index.searchTs` unfolded (defeq) so that `sim_find` meets the `findPos … >>= …` it is stated for; same for `ne`
    show Sim _ (do
      match ← Index.findPos Generated.find_eq g._timestamps x with
      | none => pure []
      | some m => pure (dedup ((abs g).equalRun m x)))
    refine sim_find _ _ x fun v hv => ?_
    cases v with
    | none => exact ⟨_, rfl, sameSet_refl List.nodup_nil⟩
    | some m =>
      obtain ⟨hm, hx⟩ := find_eq_some _ _ _ hv
      exact ⟨_, scanThen_ok g hts x id m hm hx, sameSet_foldl_setAdd _⟩
  | ne =>
    show Sim _ (do
      match ← Index.findPos Generated.find_eq g._timestamps x with
      | none => pure (dedup g._storage_pos_sorted_by_ts)
      | some m => pure ((dedup g._storage_pos_sorted_by_ts).filter (fun p => !((abs g).equalRun m x).contains p)))
    refine sim_find _ _ x fun v hv => ?_
    cases v with
    | none => exact ⟨_, rfl, sameSet_refl (nodup_dedup _)⟩
    | some m =>
      obtain ⟨hm, hx⟩ := find_eq_some _ _ _ hv
      exact ⟨_, scanThen_ok g hts x _ m hm hx, sameSet_diff (sameSet_refl (nodup_dedup _))
        fun y => ((sameSet_foldl_setAdd _).2.2 y).trans (mem_dedup _ _)⟩
  | lt => exact sim_order _ _ x fun m => g._storage_pos_sorted_by_ts.take (m + 1)
  | le => exact sim_order _ _ x fun m => g._storage_pos_sorted_by_ts.take (m + 1)
  | gt => exact sim_order _ _ x fun m => g._storage_pos_sorted_by_ts.drop m
  | ge => exact sim_order _ _ x fun m => g._storage_pos_sorted_by_ts.drop m

/-- the generic arm. It stands before any other statement with this `match`: the first of a shape in a module owns the
    matcher that the elaborated statement of `search_timestamps_ok` names -/
theorem generic_ok (g : GSelf) (l : Leaf) (h1 : (timeQuery l)._rhs = .other)
    (h2 : (abs g).searchTs l = searchTsGeneric (abs g) l) :
    match (abs g).searchTs l with
    | .ok r' => ∃ r, IndexImpl._search_timestamps g (timeQuery l) = .ok r ∧ SameSet r r'
    | .error _ => ∃ e, IndexImpl._search_timestamps g (timeQuery l) = .error e := by
  rw [search_ts_eq, effOp_other h1, h2]
  exact everyTs_sim g l

theorem timeQuery_rhs (l : Leaf) : (∃ c x, l = .cmp c (.time x)) ∨ (timeQuery l)._rhs = .other := by
  cases l with
  | cmp c rhs =>
    cases rhs with
    | time x => exact .inl ⟨c, x, rfl⟩
    | _ => exact .inr rfl
  | _ => exact .inr rfl

end SearchTime

open SearchTime in
theorem search_timestamps_ok (g : GSelf) (hlen : g._timestamps.length = g._storage_pos_sorted_by_ts.length) (l : Leaf) :
    match (abs g).searchTs l with
    | .ok r' => ∃ r, IndexImpl._search_timestamps g (timeQuery l) = .ok r ∧ SameSet r r'
    | .error _ => ∃ e, IndexImpl._search_timestamps g (timeQuery l) = .error e := by
  rcases timeQuery_rhs l with ⟨c, x, rfl⟩ | hr
  · exact cmp_time_sim g hlen c x
  · rcases searchTs_cmp_or_generic (abs g) l with ⟨c, x, rfl⟩ | h
    · cases hr
    · exact generic_ok g l hr h

end TinyFlux.Mirror
