import TinyFlux.Mirror.Eval
import TinyFlux.Lemmas.PMapLemmas
/-!
The per-attribute methods of the translated `Index` (`_tags` is two-level: `Mirror/Tags.lean`). A `_run` lemma is the
equation `method g … = .ok { g with attr := X }` that `Mirror/Ops.lean` rewrites with; the `_ok` lemma beside it adds
that `X`, read through `abs`, is the Model's `PMap.insert / remove / renumber` of that attribute and is dict-shaped.
The `_ok` lemmas of the form `∃ X, …` are the statements per attribute (the per-attribute rows of the table in DESIGN.md) and
nothing rests on them: a composite method needs the explicit `X`, which `∃ X` hides, so `Ops.lean` starts from `_run`. For
the time arrays the `_ok` lemma is itself that equation (`insert_time_ok`, `remove_timestamps_ok`, `update_timestamps_ok`).
-/
namespace TinyFlux.Mirror
open TinyFlux.Model TinyFlux.Spec TinyFlux.Py.Typed
open TinyFlux.Generated

theorem reset_ok (g : GSelf) : IndexImpl._reset g = .ok (IndexImpl.__init__ true) := by
  rfl

theorem invalidate_ok (g : GSelf) : IndexImpl.invalidate g = .ok (IndexImpl.__init__ false) := by
  rfl

theorem abs_init (v : Bool) : abs (IndexImpl.__init__ v) = { valid := v } := by
  rfl

theorem gwf_init (v : Bool) : GWF (IndexImpl.__init__ v) :=
  ⟨List.nodup_nil, List.nodup_nil, List.nodup_nil, fun _ h => nomatch h⟩

theorem absMeas_alterAL (k : String) (idx : Nat) (d : AL String (List Nat)) :
    absMeas (alterAL k [] (fun l => l ++ [idx]) d)
      = alterAL k [] (fun l => l ++ [(idx, ())]) (absMeas d) := by
  induction d with
  | nil => rfl
  | cons hd t ih =>
    obtain ⟨k', v⟩ := hd
    by_cases hk : (k' == k) = true
    · simp [absMeas, alterAL, hk, unitP]
    · simp only [absMeas] at ih
      simp [absMeas, alterAL, hk, ih]

theorem insert_measurements_run (g : GSelf) (idx : Nat) (m : String) :
    IndexImpl._insert_measurements g idx m
      = .ok { g with _measurements := alterAL m [] (fun l => l ++ [idx]) g._measurements } := by
  unfold IndexImpl._insert_measurements
  rw [dict_append_ok (fun d => ({ g with _measurements := d } : GSelf))]

theorem insert_measurements_ok (g : GSelf) (idx : Nat) (m : String) :
    ∃ X, IndexImpl._insert_measurements g idx m = .ok { g with _measurements := X }
      ∧ absMeas X = (absMeas g._measurements).insert m idx ()
      ∧ ((keysAL g._measurements).Nodup → (keysAL X).Nodup) :=
  ⟨_, insert_measurements_run g idx m, absMeas_alterAL m idx _, nodup_keys_alterAL _ _ _ _⟩

theorem nodup_foldl_insert (idx : Nat) (fields : List (String × Option Num))
    (d : PMap String (Option Num)) (h : (keysAL d).Nodup) :
    (keysAL (fields.foldl (fun acc kv => PMap.insert acc kv.1 idx kv.2) d)).Nodup := by
  induction fields generalizing d with
  | nil => exact h
  | cons hd t ih =>
    simp only [List.foldl_cons]
    exact ih _ (nodup_keys_alterAL _ _ _ _ h)

theorem insert_fields_run (g : GSelf) (idx : Nat) (fields : AL String (Option Num)) :
    IndexImpl._insert_fields g idx fields
      = .ok { g with _fields := fields.foldl (fun acc kv => PMap.insert acc kv.1 idx kv.2) g._fields } := by
  unfold IndexImpl._insert_fields
  rw [foldlM_ok (g := fun (s : GSelf) (kv : String × Option Num) =>
      ({ s with _fields := PMap.insert s._fields kv.1 idx kv.2 } : GSelf))]
  · -- the loop touches `_fields` only, so it is a loop over that dict
    exact congrArg Except.ok (List.foldl_hom (fun d => ({ g with _fields := d } : GSelf))
      (g₁ := fun d (kv : String × Option Num) => PMap.insert d kv.1 idx kv.2) (fun _ _ => rfl))
  · intro s kv
    obtain ⟨k, v⟩ := kv
    dsimp only
    rw [dict_append_ok (fun d => ({ s with _fields := d } : GSelf))]
    rfl

theorem insert_fields_ok (g : GSelf) (idx : Nat) (fields : AL String (Option Num)) :
    ∃ X, IndexImpl._insert_fields g idx fields = .ok { g with _fields := X }
      ∧ X = fields.foldl (fun acc kv => PMap.insert acc kv.1 idx kv.2) g._fields
      ∧ ((keysAL g._fields).Nodup → (keysAL X).Nodup) :=
  ⟨_, insert_fields_run g idx fields, rfl, nodup_foldl_insert idx fields g._fields⟩

theorem insert_time_ok (g : GSelf) (t : DateTime) :
    IndexImpl._insert_time g t = .ok { g with
      _storage_pos_sorted_by_ts := g._storage_pos_sorted_by_ts ++ [g._timestamps.length],
      _timestamps := g._timestamps ++ [t.us] } := by
  rfl

/-- the removal loops re-insert the non-empty filtered values into a fresh dict: with distinct keys every
    `d[k] = v` appends, so the loop is a `filterMap` -/
theorem foldl_remq {K α : Type} [BEq K] [LawfulBEq K] (q : α → Bool) (rest acc : AL K (List α))
    (hnd : (keysAL (acc ++ rest)).Nodup) :
    rest.foldl (fun acc kv => if (kv.2.filter q).isEmpty then acc else setItem acc kv.1 (kv.2.filter q)) acc
      = acc ++ remq q rest := by
  have hsub : (keysAL (acc ++ remq q rest)).Nodup := by
    rw [keysAL, List.map_append] at hnd ⊢
    exact hnd.sublist ((keys_remq_sublist q rest).append_left _)
  rw [← foldl_setItem_fresh (remq q rest) acc hsub, remq, List.foldl_filterMap]
  congr 1
  funext acc kv
  by_cases he : (kv.2.filter q).isEmpty = true
  · rw [if_pos he, if_pos he]
  · rw [if_neg he, if_neg he]

theorem remove_fields_run (g : GSelf) (r : List Nat) (hnd : (keysAL g._fields).Nodup) :
    IndexImpl._remove_fields g r = .ok { g with _fields := PMap.remove g._fields r.contains } := by
  dsimp only [IndexImpl._remove_fields, items, isin, item0]
  rw [foldlM_ok (g := fun acc (kv : String × List (Nat × Option Num)) =>
      if (kv.2.filter fun i => !r.contains i.1).isEmpty then acc
      else setItem acc kv.1 (kv.2.filter fun i => !r.contains i.1))]
  · rw [foldl_remq _ _ [] hnd]; rfl
  · intro acc kv
    obtain ⟨k, v⟩ := kv
    exact truthy_ite (v.filter fun i => !r.contains i.1) _ acc

theorem remove_fields_ok (g : GSelf) (r : List Nat) (hnd : (keysAL g._fields).Nodup) :
    ∃ X, IndexImpl._remove_fields g r = .ok { g with _fields := X }
      ∧ X = PMap.remove g._fields r.contains
      ∧ (keysAL X).Nodup :=
  ⟨_, remove_fields_run g r hnd, rfl, (keys_remove_sublist _ _).nodup hnd⟩

theorem unitP_filter (r : Nat → Bool) (v : List Nat) :
    (unitP v).filter (fun ip => !r ip.1) = unitP (v.filter (fun i => !r i)) := by
  simp only [unitP, List.filter_map]
  rfl

theorem absMeas_remq (r : Nat → Bool) (m : AL String (List Nat)) :
    absMeas (remq (fun i => !r i) m) = PMap.remove (absMeas m) r := by
  unfold absMeas remq PMap.remove
  rw [List.map_filterMap, List.filterMap_map]
  congr 1
  funext kv
  dsimp only [Function.comp]
  rw [unitP_filter, show (unitP (kv.2.filter fun i => !r i)).isEmpty = (kv.2.filter fun i => !r i).isEmpty from
    List.isEmpty_map]
  by_cases he : (kv.2.filter (fun i => !r i)).isEmpty = true
  · rw [if_pos he, if_pos he]; rfl
  · rw [if_neg he, if_neg he]; rfl

theorem remove_measurements_run (g : GSelf) (r : List Nat) (hnd : (keysAL g._measurements).Nodup) :
    IndexImpl._remove_measurements g r
      = .ok { g with _measurements := remq (fun i => !r.contains i) g._measurements } := by
  dsimp only [IndexImpl._remove_measurements, keys, keysAL, isin]
  -- the loop runs over the keys and reads `self._measurements[m]`: with distinct keys that is the paired value
  rw [List.foldlM_map, foldlM_ok_mem (g := fun acc (kv : String × List Nat) =>
      if (kv.2.filter fun i => !r.contains i).isEmpty then acc
      else setItem acc kv.1 (kv.2.filter fun i => !r.contains i))]
  · rw [foldl_remq _ _ [] hnd]; rfl
  · intro acc kv hkv
    rw [getItem_ok (lookupAL_of_mem _ hnd kv.1 kv.2 hkv)]
    exact truthy_ite (kv.2.filter fun i => !r.contains i) _ acc

theorem remove_measurements_ok (g : GSelf) (r : List Nat) (hnd : (keysAL g._measurements).Nodup) :
    ∃ X, IndexImpl._remove_measurements g r = .ok { g with _measurements := X }
      ∧ absMeas X = PMap.remove (absMeas g._measurements) r.contains
      ∧ (keysAL X).Nodup :=
  ⟨_, remove_measurements_run g r hnd, absMeas_remq _ _, (keys_remq_sublist _ _).nodup hnd⟩

theorem foldl_keep_pairs {α β : Type} (c : α × β → Bool) (l : List (α × β)) (a : List α) (b : List β) :
    l.foldl (fun (ab : List α × List β) tp => if c tp = true then (ab.1 ++ [tp.1], ab.2 ++ [tp.2]) else ab) (a, b)
      = (a ++ (l.filter c).map (·.1), b ++ (l.filter c).map (·.2)) := by
  induction l generalizing a b with
  | nil => simp only [List.foldl_nil, List.filter_nil, List.map_nil, List.append_nil]
  | cons tp t ih =>
    rw [List.foldl_cons, List.filter_cons]
    split
    · rw [ih, List.map_cons, List.map_cons, List.append_assoc, List.append_assoc]
      rfl
    · exact ih a b

theorem remove_timestamps_ok (g : GSelf) (r : List Nat) :
    IndexImpl._remove_timestamps g r = .ok { g with
      _timestamps := ((g._timestamps.zip g._storage_pos_sorted_by_ts).filter (fun tp => !r.contains tp.2)).map (·.1),
      _storage_pos_sorted_by_ts :=
        ((g._timestamps.zip g._storage_pos_sorted_by_ts).filter (fun tp => !r.contains tp.2)).map (·.2) } := by
  dsimp only [IndexImpl._remove_timestamps]
  rw [foldlM_ok (g := fun (ab : List Int × List Nat) (tp : Int × Nat) =>
      if (!r.contains tp.2) = true then (ab.1 ++ [tp.1], ab.2 ++ [tp.2]) else ab)
    (h := fun ab tp => by
      obtain ⟨a, b⟩ := ab
      obtain ⟨ts, pos⟩ := tp
      simp only [isin, append]
      split <;> rfl)]
  rw [foldl_keep_pairs (fun tp : Int × Nat => !r.contains tp.2)]
  rfl

theorem renum_step (u : AL Nat Nat) (i : Nat) :
    (if isin i u then getItem u i else (pure i : M Nat)) = .ok (renum u i) := by
  simp only [isin, getItem, renum, lookupAL_eq_lookup]
  cases h : u.lookup i <;> simp [pure, Except.pure]

theorem renum_step_pair {P : Type} (u : AL Nat Nat) (i : Nat × P) :
    (if isin (item0 i) u then (do pure ((← getItem u (item0 i)), (item1 i))) else (pure i : M (Nat × P)))
      = .ok (renum u i.1, i.2) := by
  simp only [isin, getItem, renum, lookupAL_eq_lookup, item0, item1]
  cases h : u.lookup i.1 <;> simp [pure, Except.pure, bind, Except.bind]

theorem mapM_renum (u : AL Nat Nat) (l : List Nat) :
    List.mapM (fun i => if isin i u then getItem u i else (pure i : M Nat)) l = .ok (l.map (renum u)) :=
  Model.mapM_ok _ _ l (fun i _ => renum_step u i)

theorem mapM_renum_pair {P : Type} (u : AL Nat Nat) (l : List (Nat × P)) :
    List.mapM (fun i => if isin (item0 i) u then (do pure ((← getItem u (item0 i)), (item1 i)))
                        else (pure i : M (Nat × P))) l
      = .ok (l.map (fun ip => (renum u ip.1, ip.2))) :=
  Model.mapM_ok _ _ l (fun i _ => renum_step_pair u i)

theorem keys_map_snd {K V W : Type} (h : V → W) (m : AL K V) :
    keysAL (m.map (fun kv => (kv.1, h kv.2))) = keysAL m := by
  simp [keysAL, Function.comp_def]

theorem update_fields_run (g : GSelf) (u : AL Nat Nat) (hnd : (keysAL g._fields).Nodup) :
    IndexImpl._update_fields g u = .ok { g with _fields := PMap.renumber g._fields (renum u) } := by
  unfold IndexImpl._update_fields
  refine items_loop (get := fun s : GSelf => s._fields) (set := fun s d => { s with _fields := d })
    (fun _ _ => rfl) (fun _ _ _ => rfl) _ (fun l => l.map fun ip => (renum u ip.1, ip.2)) g rfl hnd ?_
  intro s kv _ _
  simp only [mapM_renum_pair, bind_ok]
  rfl

theorem update_fields_ok (g : GSelf) (u : AL Nat Nat) (hnd : (keysAL g._fields).Nodup) :
    ∃ X, IndexImpl._update_fields g u = .ok { g with _fields := X }
      ∧ X = PMap.renumber g._fields (renum u)
      ∧ (keysAL X).Nodup :=
  ⟨_, update_fields_run g u hnd, rfl, by rw [keys_renumber]; exact hnd⟩

theorem update_timestamps_ok (g : GSelf) (u : AL Nat Nat) :
    IndexImpl._update_timestamps g u = .ok { g with
      _storage_pos_sorted_by_ts := g._storage_pos_sorted_by_ts.map (renum u) } := by
  unfold IndexImpl._update_timestamps
  rw [mapM_renum]; rfl

theorem absMeas_map_renum (u : AL Nat Nat) (m : AL String (List Nat)) :
    absMeas (m.map (fun kv => (kv.1, kv.2.map (renum u))))
      = PMap.renumber (absMeas m) (renum u) := by
  simp [absMeas, PMap.renumber, unitP, Function.comp_def]

theorem update_measurements_run (g : GSelf) (u : AL Nat Nat) (hnd : (keysAL g._measurements).Nodup) :
    IndexImpl._update_measurements g u
      = .ok { g with _measurements := g._measurements.map (fun kv => (kv.1, kv.2.map (renum u))) } := by
  unfold IndexImpl._update_measurements
  refine items_loop (get := fun s : GSelf => s._measurements) (set := fun s d => { s with _measurements := d })
    (fun _ _ => rfl) (fun _ _ _ => rfl) _ (fun l => l.map (renum u)) g rfl hnd ?_
  intro s kv _ _
  simp only [mapM_renum, bind_ok]
  rfl

theorem update_measurements_ok (g : GSelf) (u : AL Nat Nat) (hnd : (keysAL g._measurements).Nodup) :
    ∃ X, IndexImpl._update_measurements g u = .ok { g with _measurements := X }
      ∧ absMeas X = PMap.renumber (absMeas g._measurements) (renum u)
      ∧ (keysAL X).Nodup :=
  ⟨_, update_measurements_run g u hnd, absMeas_map_renum u _, by rw [keys_map_snd]; exact hnd⟩

end TinyFlux.Mirror
