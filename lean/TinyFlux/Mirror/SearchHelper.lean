import TinyFlux.Mirror.SearchTime

/-!
`Index._search_helper` / `Index.search`: the recursion over a compound query (`&`, `|`, `~`, with the special case
`~FieldQuery` = "every item", candidates only, which the unedited test-suite requires), the dispatch of a simple query on its
point attribute, and the three operators of `IndexResult`. `queryObj` states the query object of a Model query (class,
`operator`, `query1`, `query2`, `point_attr`, `noop` ⇔ empty hash; queries.py is not translated, tied by the correspondence).
-/
namespace TinyFlux.Mirror
open TinyFlux.Model TinyFlux.Spec TinyFlux.Py.Typed
open TinyFlux.Generated

def noopQuery : SimpleQuery :=
  { _path_resolver := fun _ => .error (), _test := fun _ => pure true, hash_is_empty := true, _point_attr := "_time" }

def queryObj : Query → QueryObj
  | .time l => .simple { timeQuery l with _point_attr := "_time" }
  | .meas l => .simple { measQuery l with _point_attr := "_measurement" }
  | .tag k l => .simple { tagQuery k l with _point_attr := "_tags" }
  | .field k l => .simple { fieldQuery k l with _point_attr := "_fields" }
  | .noop => .simple noopQuery
  | .not q => .compound .not_ (queryObj q) .none
  | .and q r => .compound .and_ (queryObj q) (queryObj r)
  | .or q r => .compound .or_ (queryObj q) (queryObj r)

/-- what the recursion keeps (`n`: the index count). It stands before any other statement with this `match`: the first of a
    shape in a module owns the matcher that the elaborated statements of `search_helper_ok` and `search_ok` name -/
def Rel (n : Nat) (gen : M IndexResult) (mod : Except Exc (List Nat)) : Prop :=
  match mod with
  | .ok r' => ∃ r, gen = .ok r ∧ SameSet r._items r' ∧ r._index_count = n
  | .error _ => ∃ e, gen = .error e

theorem rel_bind {n : Nat} {ga : M IndexResult} {ma : Except Exc (List Nat)} (ha : Rel n ga ma)
    {kg : IndexResult → M IndexResult} {km : List Nat → Except Exc (List Nat)}
    (h : ∀ r a, SameSet r._items a → r._index_count = n → Rel n (kg r) (km a)) :
    Rel n (ga >>= kg) (ma >>= km) := by
  cases ma with
  | error e => obtain ⟨e', rfl⟩ := ha; exact ⟨e', rfl⟩
  | ok a => obtain ⟨r, rfl, s, c⟩ := ha; exact h r a s c

theorem rel_and {n : Nat} {ga gb : M IndexResult} {ma mb : Except Exc (List Nat)}
    (ha : Rel n ga ma) (hb : Rel n gb mb) :
    Rel n (do let r1 ← ga; let r2 ← gb; IndexImpl.IndexResultImpl.__and__ r1 r2)
      (do let a ← ma; let b ← mb; pure (Index.inter a b)) :=
  rel_bind ha fun _ _ s1 c1 => rel_bind hb fun _ _ s2 _ => ⟨_, rfl, sameSet_inter s1 s2, c1⟩

theorem rel_or {n : Nat} {ga gb : M IndexResult} {ma mb : Except Exc (List Nat)}
    (ha : Rel n ga ma) (hb : Rel n gb mb) :
    Rel n (do let r1 ← ga; let r2 ← gb; IndexImpl.IndexResultImpl.__or__ r1 r2)
      (do let a ← ma; let b ← mb; pure (Index.union a b)) :=
  rel_bind ha fun _ _ s1 c1 => rel_bind hb fun _ _ s2 _ => ⟨_, rfl, sameSet_union s1 s2, c1⟩

theorem rel_not {n : Nat} {ga : M IndexResult} {ma : Except Exc (List Nat)} (ha : Rel n ga ma) :
    Rel n (do let r ← ga; IndexImpl.IndexResultImpl.__invert__ r)
      (do let a ← ma; pure (Index.compl n a)) :=
  rel_bind ha fun _ _ s c => ⟨_, rfl, c ▸ sameSet_compl _ s, c⟩

theorem rel_notField {n : Nat} {ga : M IndexResult} {ma : Except Exc (List Nat)} (ha : Rel n ga ma) :
    Rel n (do let r ← ga; pure ({ r with _items := mkSet (range n) } : IndexResult))
      (do let _ ← ma; pure (List.range n)) :=
  rel_bind ha fun _ _ _ c => ⟨_, rfl, sameSet_range n, c⟩

theorem rel_leaf {n : Nat} {gen : M (List Nat)} {mod : Except Exc (List Nat)}
    (h : match mod with
      | .ok r' => ∃ r, gen = .ok r ∧ SameSet r r'
      | .error _ => ∃ e, gen = .error e) :
    Rel n (do let x ← gen; pure ({ _items := x, _index_count := n } : IndexResult)) mod := by
  cases mod with
  | error e => obtain ⟨e', he⟩ := h; exact ⟨e', by simp [he, bind, Except.bind]⟩
  | ok a =>
    obtain ⟨r, hr, s⟩ := h
    exact ⟨{ _items := r, _index_count := n }, by simp only [hr, bind, Except.bind, pure, Except.pure], s, rfl⟩

theorem rel_leaf_ok {n : Nat} {gen : M (List Nat)} {mod : Except Exc (List Nat)}
    (h : ∃ r r', gen = .ok r ∧ mod = .ok r' ∧ SameSet r r') :
    Rel n (do let x ← gen; pure ({ _items := x, _index_count := n } : IndexResult)) mod := by
  obtain ⟨r, r', hr, hm, s⟩ := h
  subst hm
  exact rel_leaf ⟨r, hr, s⟩

theorem helper_and (g : GSelf) (a b : QueryObj) :
    IndexImpl._search_helper g (.compound .and_ a b) =
      (do let r1 ← IndexImpl._search_helper g a
          let r2 ← IndexImpl._search_helper g b
          IndexImpl.IndexResultImpl.__and__ r1 r2) := by
  rw [IndexImpl._search_helper]
  simp

theorem helper_or (g : GSelf) (a b : QueryObj) :
    IndexImpl._search_helper g (.compound .or_ a b) =
      (do let r1 ← IndexImpl._search_helper g a
          let r2 ← IndexImpl._search_helper g b
          IndexImpl.IndexResultImpl.__or__ r1 r2) := by
  rw [IndexImpl._search_helper]
  simp

theorem helper_not (g : GSelf) (a b : QueryObj) (h : a.isSimpleWithAttr "_fields" = false) :
    IndexImpl._search_helper g (.compound .not_ a b) =
      (do let r ← IndexImpl._search_helper g a
          IndexImpl.IndexResultImpl.__invert__ r) := by
  rw [IndexImpl._search_helper]
  simp [h]

theorem helper_notField (g : GSelf) (a b : QueryObj) (h : a.isSimpleWithAttr "_fields" = true) :
    IndexImpl._search_helper g (.compound .not_ a b) =
      (do let r ← IndexImpl._search_helper g a
          pure ({ r with _items := mkSet (range g._num_items) } : IndexResult)) := by
  rw [IndexImpl._search_helper]
  simp [h]

/-- the translated dispatch of a simple query on its point attribute -/
def dispatch (g : GSelf) (q : SimpleQuery) : M IndexResult :=
  if q.hash_is_empty then
    pure ({ _items := (mkSet (range g._num_items)), _index_count := g._num_items } : IndexResult)
  else if (q._point_attr == ("_time")) then do
    pure ({ _items := (← IndexImpl._search_timestamps g q), _index_count := g._num_items } : IndexResult)
  else if (q._point_attr == ("_measurement")) then do
    pure ({ _items := (← IndexImpl._search_measurement g q), _index_count := g._num_items } : IndexResult)
  else if (q._point_attr == ("_tags")) then do
    pure ({ _items := (← IndexImpl._search_tags g q), _index_count := g._num_items } : IndexResult)
  else if (q._point_attr == ("_fields")) then do
    pure ({ _items := (← IndexImpl._search_fields g q), _index_count := g._num_items } : IndexResult)
  else throw PyErr.typeError

/-- tie of `IndexImpl._search_helper` (a simple query) to its copy `dispatch` (evaluated by `dispatch_attr`);
    repair: DESIGN.md 3.4, "When the translation changes" -/
theorem helper_simple (g : GSelf) (q : SimpleQuery) : IndexImpl._search_helper g (.simple q) = dispatch g q := by
  rw [IndexImpl._search_helper]
  rfl

/-- a query that is not `noop()` goes to the search named by its `_point_attr`, and that search does not read the
    attribute -/
theorem dispatch_attr (g : GSelf) (q : SimpleQuery) (hq : q.hash_is_empty = false) :
    dispatch g { q with _point_attr := "_time" }
        = (do let x ← IndexImpl._search_timestamps g q; pure ({ _items := x, _index_count := g._num_items } : IndexResult))
    ∧ dispatch g { q with _point_attr := "_measurement" }
        = (do let x ← IndexImpl._search_measurement g q; pure ({ _items := x, _index_count := g._num_items } : IndexResult))
    ∧ dispatch g { q with _point_attr := "_tags" }
        = (do let x ← IndexImpl._search_tags g q; pure ({ _items := x, _index_count := g._num_items } : IndexResult))
    ∧ dispatch g { q with _point_attr := "_fields" }
        = (do let x ← IndexImpl._search_fields g q; pure ({ _items := x, _index_count := g._num_items } : IndexResult)) := by
  simp only [dispatch, hq, Bool.false_eq_true, ↓reduceIte, String.reduceBEq]
  exact ⟨rfl, rfl, rfl, rfl⟩

theorem search_helper_rel (g : GSelf) (hg : GWF g) (hts : g._timestamps.length = g._storage_pos_sorted_by_ts.length)
    (q : Query) : Rel g._num_items (IndexImpl._search_helper g (queryObj q)) ((abs g).search q) := by
  induction q with
  | time l =>
    simp only [queryObj, Index.search]
    rw [helper_simple, (dispatch_attr g (timeQuery l) rfl).1]
    exact rel_leaf (search_timestamps_ok g hts l)
  | meas l =>
    simp only [queryObj, Index.search]
    rw [helper_simple, (dispatch_attr g (measQuery l) rfl).2.1]
    exact rel_leaf_ok (search_measurement_ok g hg l)
  | tag k l =>
    simp only [queryObj, Index.search]
    rw [helper_simple, (dispatch_attr g (tagQuery k l) rfl).2.2.1]
    exact rel_leaf_ok (search_tags_ok g hg k l)
  | field k l =>
    simp only [queryObj, Index.search]
    rw [helper_simple, (dispatch_attr g (fieldQuery k l) rfl).2.2.2]
    exact rel_leaf_ok (search_fields_ok g hg k l)
  | noop =>
    simp only [queryObj, Index.search]
    rw [helper_simple]
    exact ⟨_, rfl, sameSet_range _, rfl⟩
  | and q r ihq ihr =>
    simp only [queryObj, Index.search]
    rw [helper_and]
    exact rel_and ihq ihr
  | or q r ihq ihr =>
    simp only [queryObj, Index.search]
    rw [helper_or]
    exact rel_or ihq ihr
  | not q ih =>
    cases q with
    | field k l =>
      simp only [queryObj, Index.search]
      rw [helper_notField _ _ _ (by simp [QueryObj.isSimpleWithAttr])]
      simp only [queryObj, Index.search] at ih
      exact rel_notField ih
    | _ =>
      rw [queryObj, helper_not _ _ _ rfl]
      exact rel_not ih

theorem search_helper_ok (g : GSelf) (hg : GWF g) (hlen : g._timestamps.length = g._storage_pos_sorted_by_ts.length)
    (q : Query) :
    match (abs g).search q with
    | .ok r' => ∃ r, IndexImpl._search_helper g (queryObj q) = .ok r ∧ SameSet r._items r' ∧ r._index_count = g._num_items
    | .error _ => ∃ e, IndexImpl._search_helper g (queryObj q) = .error e :=
  search_helper_rel g hg hlen q

theorem search_eq (g : GSelf) (qo : QueryObj) : IndexImpl.search g qo = IndexImpl._search_helper g qo := by
  unfold IndexImpl.search
  cases IndexImpl._search_helper g qo <;> rfl

theorem search_ok (g : GSelf) (hg : GWF g) (hlen : g._timestamps.length = g._storage_pos_sorted_by_ts.length)
    (q : Query) :
    match (abs g).search q with
    | .ok r' => ∃ r, IndexImpl.search g (queryObj q) = .ok r ∧ SameSet r._items r' ∧ r._index_count = g._num_items
    | .error _ => ∃ e, IndexImpl.search g (queryObj q) = .error e := by
  rw [search_eq]
  exact search_helper_ok g hg hlen q

end TinyFlux.Mirror
