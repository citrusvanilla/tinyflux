import TinyFlux.Mirror.SearchHelper
import TinyFlux.Mirror.Via
/-!
`translatedExt` hands the database methods the translated `IndexImpl.search` on the query object. It returns the Model's
positions as a *set* (`search_ok`; a Python set has no order), which is all the methods look at (`SameSet.agree`), so it is
a `SearchSim` search (`translatedExt_sim`) and every method mirrored over such searches is mirrored over it.
-/
namespace TinyFlux.Mirror
open TinyFlux.Model TinyFlux.Spec TinyFlux.Py.Typed
open TinyFlux.Generated

def translatedExt : DatabaseImpl.Ext Query :=
  { modelExt with index_search := fun idx q => IndexImpl.search idx (queryObj q) }

theorem sameSet_length {a b : List Nat} (h : SameSet a b) : a.length = b.length :=
  ((List.perm_ext_iff_of_nodup h.1 h.2.1).2 h.2.2).length_eq

theorem sameSet_contains {a b : List Nat} (h : SameSet a b) (x : Nat) : a.contains x = b.contains x := by
  rw [List.contains_eq_mem, List.contains_eq_mem]
  exact decide_eq_decide.2 (h.2.2 x)

theorem SameSet.agree {a b : List Nat} (h : SameSet a b) : Agree a b := ⟨sameSet_length h, sameSet_contains h⟩

theorem translatedExt_sim (idx : GSelf) (hg : GWF idx) (hts : idx._timestamps.length = idx._storage_pos_sorted_by_ts.length)
    (q' : Query) : SearchSim (translatedExt.index_search idx q') ((abs idx).search q') := by
  have key := search_ok idx hg hts q'
  unfold SearchSim
  cases hs : (abs idx).search q' with
  | error e =>
    rw [hs] at key
    exact key
  | ok items =>
    rw [hs] at key
    obtain ⟨r, hr, hss, _⟩ := key
    exact ⟨r, hr, hss.agree⟩

end TinyFlux.Mirror
