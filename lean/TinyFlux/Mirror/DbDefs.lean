import TinyFlux.Generated.DatabaseImpl
import TinyFlux.Mirror.Ops
/-!
The translated `TinyFlux` object (`Generated/DatabaseImpl.lean`) read as a Model state. Storage is the list level of
`Py/Typed.lean` (the rows as decoded points, plus the rows appended to temporary storage); the index is the *translated*
index (`IndexImpl`). What is not translated enters through `Ext`: query objects are the Model's `Query`, with
`index_is_exact = exact`, `query(point) = eval`, and `Index.search` either the Model's on the `abs`-read index (`modelExt`)
or any other search put in its place (`extWith`; the translated one is `translatedExt`, `Mirror/Translated.lean`).
`StateEq` is the relation in which the database-level theorems compare `absDB` of a result with the Model's state.
-/
namespace TinyFlux.Mirror
open TinyFlux.Model TinyFlux.Spec TinyFlux.Py.Typed
open TinyFlux.Generated

abbrev DSelf := DatabaseImpl.Self

def errOf : Exc → PyErr
  | .type => .typeError | .key => .keyError | .user => .valueError

def liftE {α : Type} : Except Exc α → M α
  | .ok a => .ok a
  | .error e => .error (errOf e)

/-- `meas_eq` is only called under `if measurement:`, where the argument is `some name`; the `""` it gives for `none` is
    never looked at. -/
def modelExt : DatabaseImpl.Ext Query :=
  { index_is_exact := exact
    meas_eq := fun m => .meas (.cmp .eq (.str (m.getD "")))
    qand := .and
    call := fun q p => match eval q p with | .ok b => .ok b | .error e => .error (errOf e)
    index_search := fun idx q => match (abs idx).search q with
      | .ok l => .ok { _items := l, _index_count := idx._num_items }
      | .error e => .error (errOf e) }

def extWith (srch : GSelf → Query → M IndexResult) : DatabaseImpl.Ext Query := { modelExt with index_search := srch }

theorem modelExt_call (q : Query) (p : Point) : modelExt.call q p = liftE (eval q p) := by
  show (match eval q p with | .ok b => Except.ok b | .error e => Except.error (errOf e)) = _
  cases eval q p <;> rfl

/-- `norm` is the storage's codec, which the list level does not see -/
def absDB (norm : Point → Point) (g : DSelf) : State :=
  { cfg := { autoIndex := g._auto_index, norm := norm }, storage := g._storage._items, index := abs g._index }

/-- `storage` and `autoIndex` equal, the index up to `IdxEq`; `cfg.norm` is not compared (`absDB` takes it as a parameter) -/
structure StateEq (a b : State) : Prop where
  storage : a.storage = b.storage
  auto : a.cfg.autoIndex = b.cfg.autoIndex
  index : IdxEq a.index b.index

theorem stateEq_refl (s : State) : StateEq s s := ⟨rfl, rfl, idxEq_refl _⟩

end TinyFlux.Mirror
