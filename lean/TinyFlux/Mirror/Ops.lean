import TinyFlux.Mirror.Maps
import TinyFlux.Mirror.Tags
import TinyFlux.Lemmas.WriteLoops
/-!
The composite methods of the translated `Index`. Each is first run (`insert_run`, `remove_run`, `update_run`: an equation
`method g … = .ok (explicit state)`), so that `GWF`, `IdxEq` and `TagsNE` of the result are facts about pure functions
(`insert_spec`, `update_spec`, `build_spec`; the `_ok` theorems are these without `TagsNE`). `remove` has no `_spec`: its
result has `TagsNE` whatever the state before, so `remove_ok` and `remove_ne` are read off `remove_run` separately.
`build` is a loop of inserts and has no `_run` equation: `build_eq` and `bld_loop` lead to `build_spec` (existential form).
`gen_*_represents` carry the Model's `represents_*` over `IdxEq`.
-/
namespace TinyFlux.Mirror
open TinyFlux.Model TinyFlux.Spec TinyFlux.Py.Typed
open TinyFlux.Generated

theorem represents_of_idxEq {a b : Index} {l : List Point} (h : IdxEq a b) (hw : WFMap a.tags)
    (hb : Represents b l) : Represents a l := by
  obtain ⟨h1, h2, h3, h4, h5, h6, h7⟩ := h
  refine ⟨?_, ?_, ?_, ?_, ?_, hw, ?_, ?_, ?_, ?_⟩
  · rw [h1]; exact hb.num
  · rw [h4]; exact hb.meas
  · intro kv; rw [h7]; exact hb.tags kv
  · rw [h5]; exact hb.fields
  · rw [h4]; exact hb.wfMeas
  · rw [h5]; exact hb.wfFields
  · rw [h2, h3]; exact hb.tsLen
  · rw [h2]; exact hb.tsSorted
  · rw [h2, h3]; exact hb.tsPerm

theorem idxEq_refl (a : Index) : IdxEq a a := ⟨rfl, rfl, rfl, rfl, rfl, rfl, fun _ => rfl⟩

theorem idxEq_trans {a b c : Index} (h1 : IdxEq a b) (h2 : IdxEq b c) : IdxEq a c :=
  ⟨h1.num.trans h2.num, h1.ts.trans h2.ts, h1.pos.trans h2.pos, h1.meas.trans h2.meas,
   h1.fields.trans h2.fields, h1.valid.trans h2.valid, fun kv => (h1.tags kv).trans (h2.tags kv)⟩

theorem idxEq_update {a b : Index} (h : IdxEq a b) (u : AL Nat Nat) : IdxEq (a.update u) (b.update u) := by
  obtain ⟨h1, h2, h3, h4, h5, h6, h7⟩ := h
  refine ⟨h1, h2, ?_, ?_, ?_, h6, ?_⟩
  · simp only [Index.update, h3]
  · simp only [Index.update, h4]
  · simp only [Index.update, h5]
  · intro kv; simp only [Index.update, posting_renumber, h7]

/-- `IdxEq` on what the loops of `insert` and `build` share (`build` fills the time arrays after its loop) -/
structure MapsEq (a b : Index) : Prop where
  num : a.numItems = b.numItems
  meas : a.meas = b.meas
  fields : a.fields = b.fields
  tags : ∀ kv, a.tags.posting kv = b.tags.posting kv

/-- `self._num_items += 1` and `_insert_measurements / _insert_tags / _insert_fields` for one point at position `n`
    (the Model's `Index.insertMaps`) -/
def insMapsG (n : Nat) (p : Point) (g : GSelf) : GSelf :=
  { g with
    _num_items := g._num_items + 1
    _tags := p.tags.foldl (fun t kv => alter2 kv.1 kv.2 [] (fun l => l ++ [n]) t) g._tags
    _fields := p.fields.foldl (fun acc kv => PMap.insert acc kv.1 n kv.2) g._fields
    _measurements := alterAL p.meas [] (fun l => l ++ [n]) g._measurements }

theorem mapsEq_insMapsG (g : GSelf) (i : Index) (n : Nat) (p : Point) (hg : GWF g) (h : MapsEq (abs g) i) :
    GWF (insMapsG n p g)
      ∧ MapsEq (abs (insMapsG n p g)) { (i.insertMaps n p) with numItems := i.numItems + 1 }
      ∧ (TagsNE g._tags → TagsNE (insMapsG n p g)._tags) := by
  obtain ⟨w, ps, ne⟩ := insert_tags_spec n p.tags g._tags (flatTags g._tags) hg.tags (fun _ => rfl)
  obtain ⟨h1, h4, h5, h7⟩ := h
  simp only [abs] at h1 h4 h5 h7
  refine ⟨⟨nodup_keys_alterAL _ _ _ _ hg.meas, nodup_foldl_insert n p.fields g._fields hg.fields, w⟩,
    ⟨?_, ?_, ?_, ?_⟩, ne⟩
  · simp only [abs, insMapsG, h1]
  · simp only [abs, insMapsG, Index.insertMaps, absMeas_alterAL, h4]; rfl
  · simp only [abs, insMapsG, Index.insertMaps, h5]
  · intro kv
    simp only [abs, insMapsG, Index.insertMaps]
    rw [ps kv, posting_foldl_insert (fun kv : String × Option String => (kv.1, kv.2)) (fun _ => ()),
      posting_foldl_insert (fun kv : String × Option String => (kv.1, kv.2)) (fun _ => ()), h7]

/-- the state after one iteration of the loop of `Index.insert` -/
def insG (n : Nat) (p : Point) (g : GSelf) : GSelf :=
  { insMapsG n p g with
    _storage_pos_sorted_by_ts := g._storage_pos_sorted_by_ts ++ [g._timestamps.length]
    _timestamps := g._timestamps ++ [p.time] }

/-- the translated body of the loop of `Index.insert` -/
def insBody (start_idx : Nat) : GSelf → Nat × Point → M GSelf :=
  fun self (idx, point) => do
      let new_idx := (start_idx + idx)
      let self := { self with _num_items := self._num_items + 1 }
      if (!(truthy (timeOf point))) then do
        throw PyErr.valueError
      else do
        let self ← IndexImpl._insert_time self (timeOf point)
        let self ← IndexImpl._insert_tags self new_idx point.tags
        let self ← IndexImpl._insert_fields self new_idx point.fields
        let self ← IndexImpl._insert_measurements self new_idx point.meas
        pure self

/-- tie of `IndexImpl.insert` to its copy `insBody` (evaluated by `insBody_run`); repair: DESIGN.md 3.4, "When the translation changes" -/
theorem insert_eq (g : GSelf) (pts : List Point) :
    IndexImpl.insert g pts = List.foldlM (insBody g._timestamps.length) g (enumerate pts) := by
  unfold IndexImpl.insert insBody
  simp [Py.Typed.len]

theorem insBody_run (start : Nat) (g : GSelf) (idx : Nat) (p : Point) :
    insBody start g (idx, p) = .ok (insG (start + idx) p g) := by
  unfold insBody
  simp only [truthy, Bool.not_true, Bool.false_eq_true, ↓reduceIte]
  rw [insert_time_ok, bind_ok, insert_tags_run, bind_ok, insert_fields_run, bind_ok, insert_measurements_run]
  rfl

theorem insert_run (g : GSelf) (pts : List Point) :
    IndexImpl.insert g pts = .ok (pts.foldl (fun s p => insG s._timestamps.length p s) g) := by
  rw [insert_eq, foldlM_ok (g := fun s (ip : Nat × Point) => insG (g._timestamps.length + ip.1) ip.2 s)]
  · -- `start_idx + idx` is the length of the time array when the point is reached
    have pos : ∀ (pts : List Point) (k : Nat) (s : GSelf), g._timestamps.length + k = s._timestamps.length →
        ((pts.zipIdx k).map fun xi => (xi.2, xi.1)).foldl
            (fun s ip => insG (g._timestamps.length + ip.1) ip.2 s) s
          = pts.foldl (fun s p => insG s._timestamps.length p s) s := by
      intro pts
      induction pts with
      | nil => intro k s _; rfl
      | cons p t ih =>
        intro k s hk
        rw [List.zipIdx_cons, List.map_cons, List.foldl_cons, List.foldl_cons, hk]
        exact ih (k + 1) _ (by simp only [insG, List.length_append, List.length_singleton]; omega)
    exact congrArg Except.ok (pos pts 0 g rfl)
  · intro s ip
    obtain ⟨i, p⟩ := ip
    exact insBody_run _ s i p

theorem idxEq_insG (g : GSelf) (i : Index) (p : Point) (hg : GWF g) (h : IdxEq (abs g) i) :
    IdxEq (abs (insG g._timestamps.length p g)) (i.insert p) := by
  have hts : g._timestamps = i.ts := h.ts
  have hpos : g._storage_pos_sorted_by_ts = i.pos := h.pos
  rw [congrArg List.length hts]
  obtain ⟨_, m, _⟩ := mapsEq_insMapsG g i i.ts.length p hg ⟨h.num, h.meas, h.fields, h.tags⟩
  refine ⟨m.num, ?_, ?_, m.meas, m.fields, h.valid, m.tags⟩
  · show g._timestamps ++ [p.time] = i.ts ++ [p.time]
    rw [hts]
  · show g._storage_pos_sorted_by_ts ++ [g._timestamps.length] = i.pos ++ [i.ts.length]
    rw [hts, hpos]

theorem insert_spec (g : GSelf) (pts : List Point) (hg : GWF g) :
    ∃ g', IndexImpl.insert g pts = .ok g' ∧ GWF g' ∧ IdxEq (abs g') (pts.foldl Index.insert (abs g))
      ∧ (TagsNE g._tags → TagsNE g'._tags) := by
  refine ⟨_, insert_run g pts, ?_⟩
  have loop : ∀ (pts : List Point) (s : GSelf) (i : Index), GWF s → IdxEq (abs s) i →
      GWF (pts.foldl (fun s p => insG s._timestamps.length p s) s)
      ∧ IdxEq (abs (pts.foldl (fun s p => insG s._timestamps.length p s) s)) (pts.foldl Index.insert i)
      ∧ (TagsNE s._tags → TagsNE (pts.foldl (fun s p => insG s._timestamps.length p s) s)._tags) := by
    intro pts
    induction pts with
    | nil => intro s i hs h; exact ⟨hs, h, id⟩
    | cons p t ih =>
      intro s i hs h
      obtain ⟨w, _, n⟩ := mapsEq_insMapsG s i s._timestamps.length p hs ⟨h.num, h.meas, h.fields, h.tags⟩
      obtain ⟨a, b, c⟩ := ih (insG s._timestamps.length p s) (i.insert p) ⟨w.meas, w.fields, w.tags⟩
        (idxEq_insG s i p hs h)
      exact ⟨a, b, fun hne => c (n hne)⟩
  exact loop pts g (abs g) hg (idxEq_refl _)

theorem insert_ok (g : GSelf) (pts : List Point) (hg : GWF g) (hlen : g._timestamps.length = g._storage_pos_sorted_by_ts.length) :
    ∃ g', IndexImpl.insert g pts = .ok g' ∧ GWF g' ∧ IdxEq (abs g') (pts.foldl Index.insert (abs g)) := by
  have _ := hlen  -- not needed: `insert_run` evaluates the translated `insert` with no hypothesis
  obtain ⟨g', e, w, h, _⟩ := insert_spec g pts hg
  exact ⟨g', e, w, h⟩

/-- the state `Index.remove` leaves when `r.length ≤ g._num_items` (`remove_run`) -/
def removedG (g : GSelf) (r : List Nat) : GSelf :=
  { g with
    _timestamps := ((g._timestamps.zip g._storage_pos_sorted_by_ts).filter (fun tp => !r.contains tp.2)).map (·.1)
    _storage_pos_sorted_by_ts :=
      ((g._timestamps.zip g._storage_pos_sorted_by_ts).filter (fun tp => !r.contains tp.2)).map (·.2)
    _measurements := remq (fun i => !r.contains i) g._measurements
    _tags := remTags r g._tags
    _fields := PMap.remove g._fields r.contains
    _num_items := g._num_items - r.length }

/-- the count is the one place where the translated `remove` can raise: `_num_items` is a `Nat`, and `natSub` flags
    the subtraction that would leave it -/
theorem remove_run (g : GSelf) (r : List Nat) (hg : GWF g) :
    IndexImpl.remove g r = if r.length ≤ g._num_items then .ok (removedG g r) else .error .range := by
  unfold IndexImpl.remove
  rw [remove_timestamps_ok, bind_ok, remove_measurements_run _ r (by exact hg.meas), bind_ok,
    remove_tags_run, bind_ok, remove_fields_run _ r (by exact hg.fields), bind_ok]
  exact natSub_bind g._num_items r.length _

theorem remove_ok (g : GSelf) (r : List Nat) (hg : GWF g) (hle : r.length ≤ g._num_items) :
    ∃ g', IndexImpl.remove g r = .ok g' ∧ GWF g' ∧ IdxEq (abs g') ((abs g).remove r) := by
  refine ⟨removedG g r, by rw [remove_run g r hg, if_pos hle], ?_, ?_⟩
  · exact ⟨(keys_remq_sublist _ _).nodup hg.meas, (keys_remove_sublist _ _).nodup hg.fields,
      (remTags_shape r _).1⟩
  · exact ⟨rfl, rfl, rfl, absMeas_remq _ _, rfl, rfl, posting_remTags r _ hg.tags⟩

theorem remove_range (g : GSelf) (r : List Nat) (hg : GWF g) (hgt : g._num_items < r.length) :
    IndexImpl.remove g r = .error .range := by
  rw [remove_run g r hg, if_neg (by omega)]

theorem update_run (g : GSelf) (u : AL Nat Nat) (hg : GWF g) :
    IndexImpl.update g u = .ok { g with
      _storage_pos_sorted_by_ts := g._storage_pos_sorted_by_ts.map (renum u)
      _measurements := g._measurements.map (fun kv => (kv.1, kv.2.map (renum u)))
      _tags := renTags u g._tags
      _fields := PMap.renumber g._fields (renum u) } := by
  unfold IndexImpl.update
  rw [update_timestamps_ok, bind_ok, update_measurements_run _ u (by exact hg.meas), bind_ok,
    update_tags_run _ u (by exact hg.tags), bind_ok, update_fields_run _ u (by exact hg.fields)]

theorem update_spec (g : GSelf) (u : AL Nat Nat) (hg : GWF g) :
    ∃ g', IndexImpl.update g u = .ok g' ∧ GWF g' ∧ IdxEq (abs g') ((abs g).update u)
      ∧ (TagsNE g._tags → TagsNE g'._tags) := by
  refine ⟨_, update_run g u hg, ⟨?_, ?_, tagsWF_renTags u _ hg.tags⟩, ?_, tagsNE_renTags u _⟩
  · rw [keys_map_snd]; exact hg.meas
  · rw [keys_renumber]; exact hg.fields
  · exact ⟨rfl, rfl, rfl, absMeas_map_renum u _, rfl, rfl, fun kv => by
      show PMap.posting (flatTags (renTags u g._tags)) kv = _
      rw [flatTags_renTags]; rfl⟩

theorem update_ok (g : GSelf) (u : AL Nat Nat) (hg : GWF g) :
    ∃ g', IndexImpl.update g u = .ok g' ∧ GWF g' ∧ IdxEq (abs g') ((abs g).update u) := by
  obtain ⟨g', e, w, h, _⟩ := update_spec g u hg
  exact ⟨g', e, w, h⟩

/-- the translated body of the loop of `Index.build` -/
def bldBody : GSelf × List (Int × Nat) → Nat × Point → M (GSelf × List (Int × Nat)) :=
  fun (self, timestamp_buffer) (idx, point) => do
      let self := { self with _num_items := self._num_items + 1 }
      let self ← IndexImpl._insert_measurements self idx point.meas
      let self ← IndexImpl._insert_tags self idx point.tags
      let self ← IndexImpl._insert_fields self idx point.fields
      if (!(truthy (timeOf point))) then do
        throw PyErr.valueError
      else do
        let timestamp_buffer := (append timestamp_buffer ((timestamp (timeOf point)), idx))
        pure (self, timestamp_buffer)

/-- tie of `IndexImpl.build` to its copy `bldBody` (evaluated by `bldBody_run`, `bld_loop`); repair: DESIGN.md 3.4, "When the translation changes" -/
theorem build_eq (g : GSelf) (pts : List Point) :
    IndexImpl.build g pts = (do
      let self ← IndexImpl._reset g
      let st ← List.foldlM bldBody ({ self with _valid := false }, []) (enumerate pts)
      let buf := sortedBy (fun x => (item0 x)) st.2
      pure { st.1 with _timestamps := buf.map (fun i => item0 i),
                       _storage_pos_sorted_by_ts := buf.map (fun i => item1 i), _valid := true }) := by
  unfold IndexImpl.build bldBody
  rfl

theorem bldBody_run (g : GSelf) (buf : List (Int × Nat)) (idx : Nat) (p : Point) :
    bldBody (g, buf) (idx, p) = .ok (insMapsG idx p g, buf ++ [(p.time, idx)]) := by
  unfold bldBody
  simp only [truthy, Bool.not_true, Bool.false_eq_true, ↓reduceIte]
  rw [insert_measurements_run, bind_ok, insert_tags_run, bind_ok, insert_fields_run, bind_ok]
  rfl

theorem bld_loop (pts : List Point) : ∀ (g : GSelf) (buf : List (Int × Nat)) (i : Index) (k : Nat), GWF g →
    MapsEq (abs g) i →
    ∃ g', List.foldlM bldBody (g, buf) ((pts.zipIdx k).map (fun xi => (xi.2, xi.1)))
        = .ok (g', buf ++ (pts.zipIdx k).map (fun pi => (pi.1.time, pi.2))) ∧ GWF g'
      ∧ MapsEq (abs g') (Index.buildFrom i pts k) ∧ (TagsNE g._tags → TagsNE g'._tags) := by
  induction pts with
  | nil => intro g buf i k hg h; exact ⟨g, by simp [List.foldlM_nil, pure, Except.pure], hg, h, id⟩
  | cons p t ih =>
    intro g buf i k hg h
    obtain ⟨hg1, h1, n1⟩ := mapsEq_insMapsG g i k p hg h
    obtain ⟨g2, e2, hg2, h2, n2⟩ := ih (insMapsG k p g) (buf ++ [(p.time, k)]) _ (k + 1) hg1 h1
    refine ⟨g2, ?_, hg2, h2, fun hne => n2 (n1 hne)⟩
    rw [List.zipIdx_cons, List.map_cons, List.foldlM_cons, bldBody_run, bind_ok, e2]
    simp

theorem init_invalid : ({ IndexImpl.__init__ true with _valid := false } : GSelf) = IndexImpl.__init__ false := rfl

theorem build_spec (g : GSelf) (pts : List Point) :
    ∃ g', IndexImpl.build g pts = .ok g' ∧ GWF g' ∧ IdxEq (abs g') (Index.build pts) ∧ TagsNE g'._tags := by
  have h0 : MapsEq (abs (IndexImpl.__init__ false)) {} := by
    rw [abs_init]; exact ⟨rfl, rfl, rfl, fun _ => rfl⟩
  obtain ⟨g1, e1, hg1, h1, n1⟩ := bld_loop pts (IndexImpl.__init__ false) [] {} 0 (gwf_init false) h0
  rw [build_eq, reset_ok]
  simp only [bind, Except.bind, init_invalid, enumerate]
  rw [e1]
  simp only [pure, Except.pure]
  -- `IdxEq` in its components num, ts, pos, meas, fields, valid, tags. ts and pos: the translated `build` sorts the buffer
  -- that `bld_loop` returns, `[] ++ (pts.zipIdx 0).map (time, position)`, with `sortedBy item0`, which is `mergeSort` by `≤`
  -- on the first component: literally the Model's `Index.build`, so both are `rfl`. valid is set at the end on both sides
  exact ⟨_, rfl, ⟨hg1.meas, hg1.fields, hg1.tags⟩, ⟨h1.num, rfl, rfl, h1.meas, h1.fields, rfl, h1.tags⟩,
    n1 tagsNE_nil⟩

theorem build_ok (g : GSelf) (pts : List Point) :
    ∃ g', IndexImpl.build g pts = .ok g' ∧ GWF g' ∧ IdxEq (abs g') (Index.build pts) := by
  obtain ⟨g', e, w, h, _⟩ := build_spec g pts
  exact ⟨g', e, w, h⟩

theorem gen_build_represents (g : GSelf) (l : List Point) (hwf : ∀ p ∈ l, WFPoint p) :
    ∃ g', IndexImpl.build g l = .ok g' ∧ GWF g' ∧ g'._valid = true ∧ Represents (abs g') l := by
  obtain ⟨g', e, hg', h⟩ := build_ok g l
  exact ⟨g', e, hg', h.valid, represents_of_idxEq h (wfmap_flat _ hg'.tags) (represents_build l hwf)⟩

theorem gen_insert_represents (g : GSelf) (l : List Point) (p : Point) (hg : GWF g) (h : Represents (abs g) l)
    (hp : WFPoint p) (hord : ∀ t, g._timestamps.getLast? = some t → t ≤ p.time) :
    ∃ g', IndexImpl.insert g [p] = .ok g' ∧ GWF g' ∧ g'._valid = g._valid ∧ Represents (abs g') (l ++ [p]) := by
  obtain ⟨g', e, hg', h'⟩ := insert_ok g [p] hg h.tsLen
  exact ⟨g', e, hg', h'.valid, represents_of_idxEq h' (wfmap_flat _ hg'.tags) (Writes.represents_insert h hp hord)⟩

theorem gen_remove_update_represents (g : GSelf) (l : List Point) (hg : GWF g) (h : Represents (abs g) l)
    (keep : Nat → Bool) (removed : List Nat) (updated : AL Nat Nat)
    (hr : ∀ i, i < l.length → removed.contains i = !keep i)
    (hf : ∀ i, i < l.length → keep i = true → (updated.lookup i).getD i = cnt keep 0 i)
    (hlen : removed.length + (keepIdx keep l 0).length = l.length) :
    ∃ g1 g2, IndexImpl.remove g removed = .ok g1 ∧ IndexImpl.update g1 updated = .ok g2 ∧ GWF g2
      ∧ g2._valid = g._valid ∧ Represents (abs g2) (keepIdx keep l 0) := by
  have hle : removed.length ≤ g._num_items := by
    have := h.num
    simp only [abs] at this
    omega
  obtain ⟨g1, e1, hg1, h1⟩ := remove_ok g removed hg hle
  obtain ⟨g2, e2, hg2, h2⟩ := update_ok g1 updated hg1
  have h3 := idxEq_trans h2 (idxEq_update h1 updated)
  exact ⟨g1, g2, e1, e2, hg2, h3.valid,
    represents_of_idxEq h3 (wfmap_flat _ hg2.tags) (Writes.represents_remove_update h keep removed updated hr hf hlen)⟩

/- `remove` and `build` establish `TagsNE` (no `hne` hypothesis); `insert` and `update` keep it -/

theorem insert_ne (g : GSelf) (pts : List Point) (hg : GWF g) (hne : TagsNE g._tags)
    (g' : GSelf) (h : IndexImpl.insert g pts = .ok g') : TagsNE g'._tags := by
  obtain ⟨g1, e1, _, _, n1⟩ := insert_spec g pts hg
  cases e1.symm.trans h
  exact n1 hne

theorem remove_ne (g : GSelf) (r : List Nat) (hg : GWF g)
    (g' : GSelf) (h : IndexImpl.remove g r = .ok g') : TagsNE g'._tags := by
  rw [remove_run g r hg] at h
  split at h
  · cases h
    exact (remTags_shape r _).2
  · cases h

theorem update_ne (g : GSelf) (u : AL Nat Nat) (hg : GWF g) (hne : TagsNE g._tags)
    (g' : GSelf) (h : IndexImpl.update g u = .ok g') : TagsNE g'._tags := by
  obtain ⟨g1, e1, _, _, n1⟩ := update_spec g u hg
  cases e1.symm.trans h
  exact n1 hne

theorem build_ne (g : GSelf) (pts : List Point)
    (g' : GSelf) (h : IndexImpl.build g pts = .ok g') : TagsNE g'._tags := by
  obtain ⟨g1, e1, _, _, n1⟩ := build_spec g pts
  cases e1.symm.trans h
  exact n1

end TinyFlux.Mirror
