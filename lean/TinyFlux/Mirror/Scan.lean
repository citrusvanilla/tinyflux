import TinyFlux.Mirror.DbDefs
/-!
The scan path of every query-taking method of `TinyFlux`: `for item in self._storage:` with the test `if measurement and
_measurement != measurement: continue` followed by `query(point)`. That test is tied to the Model's `effMeas / scanSel /
restrictM` (`truthy_effMeas`: the one case analysis on the measurement argument), and three loop shapes are evaluated:
`foldlM_sel` folds the accepted rows (`count`, `search`), `foldlM_first` leaves at the first accepted row (`contains`, `get`)
— both over `List.filterM` of the row filter, as the Model's `step` spells the scan — and `foldlM_flags` takes one of two
steps per numbered row (the rewrite loop of `_remove_helper`), over `List.mapM` of the filter as `removeHelper` is.
-/
namespace TinyFlux.Mirror
open TinyFlux.Model TinyFlux.Spec TinyFlux.Py.Typed
open TinyFlux.Generated

theorem truthy_effMeas (m : Option String) :
    truthy m = (effMeas m).isSome ∧ ∀ name, effMeas m = some name → m = some name := by
  cases m with
  | none => exact ⟨rfl, fun _ h => by cases h⟩
  | some s =>
    by_cases hs : s = ""
    · subst hs; exact ⟨rfl, fun _ h => by cases h⟩
    · simp [truthy, effMeas, hs]

/-- the generated `continue` test of every scan loop -/
theorem skip_effMeas (m : Option String) (p : Point) :
    (truthy m && !pyEq p.meas m) = match effMeas m with | some name => p.meas != name | none => false := by
  obtain ⟨h1, h2⟩ := truthy_effMeas m
  rw [h1]
  cases h : effMeas m with
  | none => rfl
  | some name => rw [h2 name h]; rfl

theorem scanSel_ite (q : Query) (m : Option String) (p : Point) :
    State.scanSel q m p = if (truthy m && !pyEq p.meas m) = true then pure false else eval q p := by
  rw [skip_effMeas]
  unfold State.scanSel
  cases effMeas m <;> simp

/-- the rows a getter's scan looks at -/
theorem restrictM_filter (l : List Point) (m : Option String) :
    State.restrictM l m = l.filter fun p => !(truthy m && !pyEq p.meas m) := by
  simp only [skip_effMeas]
  unfold State.restrictM
  cases effMeas m with
  | none => exact (List.filter_eq_self.2 fun _ _ => rfl).symm
  | some name => simp [bne]

/-- the measurement test followed by `query(point)` is the Model's row filter: the one place where the translated scan
    loops meet `scanSel` (`K false` is what the loop body does with a skipped row) -/
theorem scanSel_bind {β : Type} (q : Query) (m : Option String) (p : Point) (K : Bool → M β) :
    (if (truthy m && !pyEq p.meas m) = true then K false else modelExt.call q p >>= K)
      = liftE (State.scanSel q m p) >>= K := by
  rw [modelExt_call, scanSel_ite]
  by_cases h : (truthy m && !pyEq p.meas m) = true
  · rw [if_pos h, if_pos h]; rfl
  · rw [if_neg h, if_neg h]

theorem filterAuxM_cons' {α : Type} (p : α → Except Exc Bool) (a : α) (t acc : List α) :
    List.filterAuxM p (a :: t) acc = (p a >>= fun b => List.filterAuxM p t (cond b (a :: acc) acc)) := rfl

theorem filterAuxM_acc {α : Type} (sel : α → Except Exc Bool) (l : List α) : ∀ acc : List α,
    List.filterAuxM sel l acc = (List.filterAuxM sel l []).map (· ++ acc) := by
  induction l with
  | nil => intro acc; rfl
  | cons a t ih =>
    intro acc
    rw [filterAuxM_cons', filterAuxM_cons']
    cases sel a with
    | error e => rfl
    | ok b =>
      show List.filterAuxM sel t _ = (List.filterAuxM sel t _).map _
      rw [ih (cond b (a :: acc) acc), ih (cond b [a] [])]
      cases List.filterAuxM sel t [] with
      | error e => rfl
      | ok r => cases b <;> simp [Except.map]

theorem filterM_cons {α : Type} (sel : α → Except Exc Bool) (a : α) (t : List α) :
    (a :: t).filterM sel = sel a >>= fun b => (t.filterM sel).map fun r => cond b (a :: r) r := by
  unfold List.filterM
  rw [filterAuxM_cons']
  cases sel a with
  | error e => rfl
  | ok b =>
    show (List.filterAuxM sel t _ >>= _) = (List.filterAuxM sel t [] >>= _).map _
    rw [filterAuxM_acc]
    cases List.filterAuxM sel t [] with
    | error e => rfl
    | ok r => cases b <;> simp [Except.map, bind, Except.bind, pure, Except.pure]

theorem foldlM_sel {β : Type} (sel : Point → Except Exc Bool) (f : β → Point → M β) (step : β → Point → β)
    (hf : ∀ c a, f c a = liftE (sel a) >>= fun b => if b = true then pure (step c a) else pure c) (l : List Point) :
    ∀ c, List.foldlM f c l = liftE ((l.filterM sel).map fun r => r.foldl step c) := by
  induction l with
  | nil => intro c; rfl
  | cons a t ih =>
    intro c
    rw [List.foldlM_cons, hf, filterM_cons]
    cases sel a with
    | error e => rfl
    | ok b =>
      cases b
      · simp only [Except.map, liftE, bind, Except.bind, pure, Except.pure, ih, Bool.false_eq_true, if_false]
        cases t.filterM sel <;> rfl
      · simp only [Except.map, liftE, bind, Except.bind, pure, Except.pure, ih, if_true]
        cases t.filterM sel <;> rfl

/-- a loop that leaves (`break`) at the first row the filter accepts: `hit` of that row, or the initial value -/
theorem foldlM_first {β : Type} (sel : Point → Except Exc Bool) (f : β × Bool → Point → M (β × Bool)) (hit : Point → β)
    (hbrk : ∀ c a, f (c, true) a = .ok (c, true))
    (hf : ∀ c a, f (c, false) a = liftE (sel a) >>= fun b => if b = true then pure (hit a, true) else pure (c, false))
    (c : β) (l : List Point) : ∀ r, l.filterM sel = .ok r →
    ∃ brk, List.foldlM f (c, false) l = .ok ((r.head?.map hit).getD c, brk) := by
  have stay : ∀ (l : List Point) (c : β), List.foldlM f (c, true) l = .ok (c, true) := by
    intro l
    induction l with
    | nil => intro c; rfl
    | cons a t ih => intro c; rw [List.foldlM_cons, hbrk]; exact ih c
  induction l with
  | nil => intro r h; cases h; exact ⟨false, rfl⟩
  | cons a t ih =>
    intro r h
    rw [filterM_cons] at h
    obtain ⟨b, hs, h⟩ := Except.bind_eq_ok.mp h
    rw [List.foldlM_cons, hf c a, hs]
    cases ht : t.filterM sel with
    | error e => rw [ht] at h; cases h
    | ok r' =>
      rw [ht] at h
      cases h
      cases b with
      | true => exact ⟨true, stay t _⟩
      | false => exact ih r' ht

/-- a loop over the rows numbered from `i`, run on given per-row flags -/
def runFlags {β : Type} (step : Bool → β → Nat → Point → β) : List Point → List Bool → Nat → β → β
  | p :: t, b :: fl, i, acc => runFlags step t fl (i + 1) (step b acc i p)
  | _, _, _, acc => acc

/-- a loop over `enumerate(storage)` whose body asks the row filter and then makes a pure step: the tests first (`mapM`),
    then the steps -/
theorem foldlM_flags {β : Type} (sel : Point → Except Exc Bool) (f : β → Nat × Point → M β)
    (step : Bool → β → Nat → Point → β)
    (hf : ∀ c i p, f c (i, p) = liftE (sel p) >>= fun b => pure (step b c i p)) (rows : List Point) :
    ∀ i c, List.foldlM f c ((rows.zipIdx i).map fun xi => (xi.2, xi.1))
      = liftE (rows.mapM sel) >>= fun flags => pure (runFlags step rows flags i c) := by
  induction rows with
  | nil => intro i c; simp [runFlags, liftE, pure, Except.pure, bind, Except.bind]
  | cons p t ih =>
    intro i c
    simp only [List.zipIdx_cons, List.map_cons, List.foldlM_cons, hf, List.mapM_cons]
    cases sel p with
    | error e => rfl
    | ok b =>
      simp only [liftE, bind, Except.bind, ih]
      cases List.mapM sel t with
      | error e => rfl
      | ok fl => simp only [pure, Except.pure, runFlags]

end TinyFlux.Mirror
