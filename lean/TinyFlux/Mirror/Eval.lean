import TinyFlux.Mirror.Defs
import TinyFlux.Lemmas.Basics
/-!
What the combinators of `Py/Typed.lean` compute when nothing raises. A mirror proof first runs the translated `do` block:
with these lemmas a loop body `f` is shown to be `f b a = .ok (g b a)` for a pure function `g`, and the loop is then the
`List.foldl` of `g` (`foldlM_ok`), after which the proof is about pure list functions. Dicts are read through `lookupAL` and written through `setItem`: an in-place
update of a present key (`updItem_ok`) and the Model's `alterAL` (`alterAL_eq_setItem`) are both a `setItem`.
-/
namespace TinyFlux.Mirror
open TinyFlux.Model TinyFlux.Py.Typed

/-! ## sequencing and loops -/

theorem bind_ok {α β : Type} (a : α) (f : α → M β) : (Except.ok a : M α) >>= f = f a := rfl

theorem ite_pure {β : Type} (c : Prop) [Decidable c] (a b : β) :
    (if c then (pure a : M β) else pure b) = pure (if c then a else b) := by
  split <;> rfl

theorem filterMapM_pure {α β : Type} (g : α → Option β) (l : List α) :
    l.filterMapM (fun a => (pure (g a) : M (Option β))) = pure (l.filterMap g) :=
  Model.filterMapM_ok _ g l (fun _ _ => rfl)

/-- `a - b` on positions, then the rest: the one place where arithmetic can raise -/
theorem natSub_bind {β : Type} (a b : Nat) (f : Nat → M β) :
    natSub a b >>= f = if b ≤ a then f (a - b) else .error .range := by
  unfold natSub
  split <;> rfl

theorem foldlM_ok_inv {α β : Type} (I : β → Prop) (f : β → α → M β) (g : β → α → β) (l : List α)
    (h : ∀ b, I b → ∀ a ∈ l, f b a = .ok (g b a) ∧ I (g b a)) (b : β) (hb : I b) :
    l.foldlM f b = .ok (l.foldl g b) ∧ I (l.foldl g b) := by
  induction l generalizing b with
  | nil => exact ⟨rfl, hb⟩
  | cons x t ih =>
    obtain ⟨e, hi⟩ := h b hb x List.mem_cons_self
    rw [List.foldlM_cons, e, bind_ok, List.foldl_cons]
    exact ih (fun b hb a ha => h b hb a (List.mem_cons_of_mem _ ha)) _ hi

theorem foldlM_ok_mem {α β : Type} (f : β → α → M β) (g : β → α → β) (l : List α)
    (h : ∀ b, ∀ a ∈ l, f b a = .ok (g b a)) (b : β) : l.foldlM f b = .ok (l.foldl g b) :=
  (foldlM_ok_inv (fun _ => True) f g l (fun b _ a ha => ⟨h b a ha, trivial⟩) b trivial).1

theorem foldlM_ok {α β : Type} (f : β → α → M β) (g : β → α → β) (h : ∀ b a, f b a = .ok (g b a))
    (l : List α) (b : β) : l.foldlM f b = .ok (l.foldl g b) :=
  foldlM_ok_mem f g l (fun b a _ => h b a) b

theorem foldl_skip {α β : Type} (l : List α) (b : β) : l.foldl (fun acc _ => acc) b = b := by
  induction l with
  | nil => rfl
  | cons _ _ ih => exact ih

/-! ## truthiness -/

/-- `if new_items: acc' else: acc` -/
theorem truthy_ite {α β : Type} (l : List α) (a b : β) :
    (if truthy l = true then (pure a : M β) else pure b) = .ok (if l.isEmpty then b else a) := by
  cases l <;> rfl

/-- an `Optional[str]` is tested for truthiness: `""` counts as `None` -/
theorem Getters.truthy_some (s : String) (h : (some s : Option String) ≠ some "") :
    truthy (some s : Option String) = true := by
  have : s ≠ "" := fun e => h (by rw [e])
  simp [truthy, this]

theorem Getters.truthy_none : truthy (none : Option String) = false := rfl

/-! ## subscripts and dicts -/

theorem getItem_of_getElem? {α : Type} {l : List α} {i : Nat} {a : α} (h : l[i]? = some a) :
    (getItem l i : M α) = .ok a := by
  simp [getItem, h, pure, Except.pure]

section Dict
variable {K V : Type} [BEq K]

theorem isin_eq (k : K) (d : AL K V) : isin k d = (lookupAL k d).isSome := rfl

theorem getItem_ok {k : K} {d : AL K V} {v : V} (h : lookupAL k d = some v) : getItem d k = .ok v := by
  simp only [getItem, h]; rfl

theorem getItem_optkey (d : AL K V) (s : K) (v : V) (h : lookupAL s d = some v) :
    getItem d (some s) = (pure v : M V) := by
  simp [getItem, h]

/-- `d[k] = f(d.get(k, dflt))` is an assignment to `d[k]` -/
theorem alterAL_eq_setItem (k : K) (dflt : V) (f : V → V) (d : AL K V) :
    alterAL k dflt f d = setItem d k (f ((lookupAL k d).getD dflt)) := by
  induction d with
  | nil => rfl
  | cons hd t ih =>
    obtain ⟨k', v⟩ := hd
    by_cases hk : (k' == k) = true
    · simp only [setItem, alterAL, lookupAL, hk, ↓reduceIte, Option.getD_some]
    · simp only [setItem] at ih
      simp only [setItem, alterAL, lookupAL, hk, Bool.false_eq_true, ↓reduceIte, ih]

theorem updItem_ok {k : K} {d : AL K V} {v w : V} {f : V → M V} (h : lookupAL k d = some v)
    (hf : f v = .ok w) : updItem d k f = .ok (setItem d k w) := by
  induction d with
  | nil => cases h
  | cons hd t ih =>
    obtain ⟨k', v'⟩ := hd
    by_cases hk : (k' == k) = true
    · simp only [lookupAL, hk, ↓reduceIte, Option.some.injEq] at h
      subst h
      simp only [updItem, setItem, alterAL, hk, ↓reduceIte, hf, bind_ok]; rfl
    · simp only [lookupAL, hk, Bool.false_eq_true, ↓reduceIte] at h
      simp only [updItem, setItem, alterAL, hk, Bool.false_eq_true, ↓reduceIte, ih h, bind_ok]; rfl

/-- `if k not in d: d[k] = [x] else: d[k].append(x)`, for a dict of lists that is an attribute of a
    record (`wrap` puts the new dict back) -/
theorem dict_append_ok {σ α : Type} (wrap : AL K (List α) → σ) (d : AL K (List α)) (k : K) (x : α) :
    (if (!isin k d) = true then (pure (wrap (setItem d k [x])) : M σ)
     else do let d' ← updItem d k (fun v => pure (append v x)); pure (wrap d'))
      = .ok (wrap (alterAL k [] (fun l => l ++ [x]) d)) := by
  rw [alterAL_eq_setItem, isin_eq]
  cases h : lookupAL k d with
  | none => rfl
  | some v => rw [updItem_ok h (w := v ++ [x]) rfl]; rfl

theorem lookupAL_setItem [LawfulBEq K] (d : AL K V) (k k' : K) (w : V) :
    lookupAL k' (setItem d k w) = if k == k' then some w else lookupAL k' d :=
  lookupAL_alterAL k k' w (fun _ => w) d

theorem setItem_fresh [LawfulBEq K] (d : AL K V) (k : K) (v : V) (h : k ∉ keysAL d) :
    setItem d k v = d ++ [(k, v)] :=
  alterAL_of_lookup_none k v (fun _ => v) d (lookupAL_none_of_not_mem k d h)

theorem setItem_mid [LawfulBEq K] (pre : AL K V) (k : K) (v v' : V) (t : AL K V) (hk : k ∉ keysAL pre) :
    setItem (pre ++ (k, v) :: t) k v' = pre ++ (k, v') :: t := by
  induction pre with
  | nil => simp [setItem, alterAL]
  | cons kv p ih =>
    obtain ⟨k0, v0⟩ := kv
    simp only [keysAL, List.map_cons, List.mem_cons, not_or] at hk
    have hne : (k0 == k) = false := by simpa using (fun e => hk.1 e.symm)
    simp only [setItem] at ih
    simp only [setItem, List.cons_append, alterAL, hne, Bool.false_eq_true, ↓reduceIte, ih hk.2]

theorem setItem_setItem [LawfulBEq K] (d : AL K V) (k : K) (a b : V) :
    setItem (setItem d k a) k b = setItem d k b := by
  induction d with
  | nil => simp [setItem, alterAL]
  | cons hd t ih =>
    obtain ⟨k', v⟩ := hd
    simp only [setItem] at ih
    by_cases hk : (k' == k) = true
    · simp [setItem, alterAL, hk]
    · simp [setItem, alterAL, hk, ih]

theorem setItem_of_lookup (d : AL K V) (k : K) (v : V) (h : lookupAL k d = some v) : setItem d k v = d := by
  induction d with
  | nil => cases h
  | cons hd t ih =>
    obtain ⟨k', v'⟩ := hd
    simp only [setItem] at ih
    by_cases hk : (k' == k) = true
    · simp only [lookupAL, hk, ↓reduceIte, Option.some.injEq] at h
      simp [setItem, alterAL, hk, h]
    · simp only [lookupAL, hk, Bool.false_eq_true, ↓reduceIte] at h
      simp [setItem, alterAL, hk, ih h]

end Dict

/-- `{k: v for …}` from pairs with distinct keys, one assignment after the other: every one appends -/
theorem foldl_setItem_fresh {K V : Type} [BEq K] [LawfulBEq K] (l : AL K V) :
    ∀ acc : AL K V, (keysAL (acc ++ l)).Nodup → l.foldl (fun d kv => setItem d kv.1 kv.2) acc = acc ++ l :=
  foldl_alterAL_fresh l

theorem dictOf_eq_self {K V : Type} [BEq K] [LawfulBEq K] (l : AL K V) (h : (keysAL l).Nodup) : dictOf l = l :=
  foldl_setItem_fresh l [] h

/-- `{k: x for k in l}` on distinct keys -/
theorem dictOf_nodup {K V : Type} [BEq K] [LawfulBEq K] (x : V) (l : List K) (hl : l.Nodup) :
    dictOf (l.map (fun i => (i, x))) = l.map (fun i => (i, x)) :=
  dictOf_eq_self _ (by simpa [keysAL, Function.comp_def] using hl)

/-! ## sets -/
section Sets
variable {α : Type} [BEq α] [LawfulBEq α]

theorem mem_mkSet (a : List α) (x : α) : x ∈ mkSet a ↔ x ∈ a := mem_dedup a x

theorem contains_mkSet (a : α) (l : List α) : (mkSet l).contains a = l.contains a := by
  rw [Bool.eq_iff_iff]
  simp [mkSet, mem_dedup]

theorem mem_setUnion (a b : List α) (x : α) : x ∈ setUnion a b ↔ x ∈ a ∨ x ∈ b := by
  rw [setUnion, mem_dedup, List.mem_append]

theorem nodup_setUnion (a b : List α) : (setUnion a b).Nodup := nodup_dedup _

theorem mem_setAdd (s : List α) (i x : α) : x ∈ setAdd s i ↔ x ∈ s ∨ x = i := by
  unfold setAdd
  by_cases h : s.contains i = true
  · rw [if_pos h]
    have hi : i ∈ s := List.contains_iff_mem.mp h
    exact ⟨Or.inl, fun hx => hx.elim id (fun e => e ▸ hi)⟩
  · rw [if_neg h, List.mem_append, List.mem_singleton]

theorem nodup_setAdd (s : List α) (i : α) (hs : s.Nodup) : (setAdd s i).Nodup := by
  unfold setAdd
  by_cases h : s.contains i = true
  · rw [if_pos h]
    exact hs
  · rw [if_neg h]
    have hi : i ∉ s := fun hm => h (List.contains_iff_mem.mpr hm)
    exact List.nodup_append.mpr ⟨hs, (List.nodup_cons.mpr ⟨List.not_mem_nil, List.nodup_nil⟩),
      fun a ha b hb e => hi ((List.mem_singleton.mp hb) ▸ e ▸ ha)⟩

theorem setAdd_idem (s : List α) (k : α) : setAdd (setAdd s k) k = setAdd s k := by
  by_cases h : k ∈ s <;> simp [setAdd, h]

theorem setAdd_of_not_mem (s : List α) (i : α) (h : i ∉ s) : setAdd s i = s ++ [i] := by
  unfold setAdd
  rw [if_neg (fun hc => h (List.contains_iff_mem.mp hc))]

/-- `for x in l: s.add(x)` -/
theorem foldl_setAdd (l : List α) : ∀ (acc : List α), acc.Nodup →
    (l.foldl setAdd acc).Nodup ∧ ∀ y, y ∈ l.foldl setAdd acc ↔ y ∈ acc ∨ y ∈ l := by
  induction l with
  | nil => intro acc h; exact ⟨h, fun y => ⟨Or.inl, fun hy => hy.elim id (fun hn => nomatch hn)⟩⟩
  | cons a t ih =>
    intro acc h
    obtain ⟨h1, h2⟩ := ih (setAdd acc a) (nodup_setAdd acc a h)
    refine ⟨h1, fun y => ?_⟩
    rw [List.foldl_cons, h2, mem_setAdd, List.mem_cons, or_assoc]

theorem foldl_setAdd_nodup (l acc : List α) (h : (acc ++ l).Nodup) : l.foldl setAdd acc = acc ++ l := by
  induction l generalizing acc with
  | nil => exact (List.append_nil acc).symm
  | cons a l ih =>
    have ha : a ∉ acc := fun hm => (List.nodup_append.mp h).2.2 a hm a List.mem_cons_self rfl
    rw [List.foldl_cons, setAdd_of_not_mem acc a ha, ih _ (by rw [List.append_assoc]; exact h), List.append_assoc]
    rfl

/-- a loop over a dict that `add`s the key of every entry that passes a test (`get_field_keys`, `get_tag_keys`) -/
theorem foldl_setAdd_filter {V : Type} (P : α × V → Bool) (t : AL α V) (acc : List α)
    (h : (acc ++ keysAL t).Nodup) :
    t.foldl (fun acc kd => if P kd = true then setAdd acc kd.1 else acc) acc
      = acc ++ (t.filter P).map (·.1) := by
  rw [← List.foldl_filter, ← foldl_setAdd_nodup _ _ (h.sublist ((List.filter_sublist.map _).append_left acc)),
    List.foldl_map]

/-- the inner loop of `get_tag_keys`: the key is added once if some posting list passes the test -/
theorem foldl_setAdd_const {β : Type} (Q : β → Bool) (k : α) (l : List β) (acc : List α) :
    l.foldl (fun acc b => if Q b = true then setAdd acc k else acc) acc
      = if l.any Q = true then setAdd acc k else acc := by
  induction l generalizing acc with
  | nil => simp
  | cons b l ih =>
    simp only [List.foldl_cons, List.any_cons, Bool.or_eq_true]
    rw [ih]
    by_cases hb : Q b = true
    · simp [hb, setAdd_idem]
    · simp [hb]

end Sets

/-! ## `for k, v in x.items(): x[k] = h(v)`

The four `_update_*` methods of `Index` are this loop: over the items of a dict that is part of the state, the
body replaces the value of the key it is visiting. The dict sits inside the state (`get`/`set`: an attribute of
the object, or an inner dict of `_tags`), and the body may raise if the key is missing (`updItem`), which it
never is. -/
theorem items_loop {K V σ : Type} [BEq K] [LawfulBEq K] (get : σ → AL K V) (set : σ → AL K V → σ)
    (hgs : ∀ s d, get (set s d) = d) (hss : ∀ s d d', set (set s d) d' = set s d')
    (body : σ → K × V → M σ) (h : V → V) (s : σ) (hsg : set s (get s) = s) (hnd : (keysAL (get s)).Nodup)
    (hb : ∀ s', ∀ kv ∈ get s, lookupAL kv.1 (get s') = some kv.2 →
      body s' kv = .ok (set s' (setItem (get s') kv.1 (h kv.2)))) :
    (get s).foldlM body s = .ok (set s ((get s).map fun kv => (kv.1, h kv.2))) := by
  -- with the items before (`pre`) done and `rest` to come: the assignment to the head of `rest` is in place
  -- (its key is not in `pre`) and leaves `rest` as the loop will find it
  have run : ∀ (rest pre : AL K V), (keysAL (pre ++ rest)).Nodup → (∀ kv ∈ rest, kv ∈ get s) →
      rest.foldlM body (set s (pre ++ rest)) = .ok (set s (pre ++ rest.map fun kv => (kv.1, h kv.2))) := by
    intro rest
    induction rest with
    | nil => intro pre _ _; rfl
    | cons kv t ih =>
      intro pre hn hm
      have hk : kv.1 ∉ keysAL pre := fun hp => by
        rw [keysAL, List.map_append, List.map_cons] at hn
        exact (List.nodup_append.mp hn).2.2 kv.1 hp kv.1 List.mem_cons_self rfl
      have hl : lookupAL kv.1 (get (set s (pre ++ kv :: t))) = some kv.2 := by
        rw [hgs]
        exact lookupAL_of_mem _ hn kv.1 kv.2 (List.mem_append_right _ List.mem_cons_self)
      rw [List.foldlM_cons, hb _ kv (hm kv List.mem_cons_self) hl, bind_ok, hgs, hss, setItem_mid pre kv.1 kv.2 _ t hk]
      have := ih (pre ++ [(kv.1, h kv.2)]) (by simpa [keysAL] using hn) (fun kv' hkv' => hm kv' (List.mem_cons_of_mem _ hkv'))
      simpa using this
  have := run (get s) [] hnd (fun _ hkv => hkv)
  rwa [List.nil_append, List.nil_append, hsg] at this

end TinyFlux.Mirror
