import TinyFlux.Mirror.Via
import TinyFlux.Mirror.DbReindex
/-!
`TinyFlux._remove_helper` against the Model's `removeHelper`. The generated method has the shape index path / scan path (`if
use_index:` is followed path-sensitively), each ending in the same tail (`rmTail`: nothing removed, everything removed, or swap
the temporary storage in and renumber the index). Hypotheses of `remove_helper_sim`: temporary storage is empty (the
`temp_storage_op` decorator initialises it) and the index, when maintained, counts the stored rows. Both rewrite loops are
`runFlags rowStep` on per-row flags (the scan path's from the row filter, the index path's from `Writes.idxFlags`), so the
renumbering is argued once (`runFlags_eq`).
-/
namespace TinyFlux.Mirror
open TinyFlux.Model TinyFlux.Spec TinyFlux.Py.Typed
open TinyFlux.Generated

open TinyFlux.Generated.DatabaseImpl
-- the copied pieces of the generated text bind variables that they do not use (`new_position` and `j` after a loop, …)
set_option linter.unusedVariables false

def RemOk (norm : Point → Point) (x : M (DSelf × Nat)) (t : State × Nat) : Prop :=
  ∃ g', x = .ok (g', t.2) ∧ StateEq (absDB norm g') t.1 ∧ GWF g'._index

/-- the translated tail shared by the three paths of `_remove_helper` -/
def rmTail (self : DSelf) (updated_items : AL Nat Nat) (keep_count : Nat) (removed_items : List Nat) : M (DSelf × Nat) := do
          if (!(truthy (len removed_items))) then do
            pure (self, 0)
          else do
            if (!(truthy keep_count)) then do
              let self ← _reset_database self 
              pure (self, (len removed_items))
            else do
              match Storage._swap_temp_with_primary self._storage with
              | .error e => do
                let self := { self with _index := (← IndexImpl.invalidate self._index) }
                throw e
              | .ok st => do
                let self := { self with _storage := st }
                let self ← (if (truthy self._auto_index) then do
                  let self := { self with _index := (← IndexImpl.remove self._index removed_items) }
                  let self := { self with _index := (← IndexImpl.update self._index updated_items) }
                  pure self
                else do
                  let self := { self with _index := (← IndexImpl.invalidate self._index) }
                  pure self
                )
                pure (self, (len removed_items))

/-- the state after the swap, with a new index -/
def swapG (g : DSelf) (idx : IndexImpl.Self) : DSelf :=
  { _auto_index := g._auto_index, _storage := { _items := g._storage._temp, _temp := [] },
    _index := idx, _measurements := g._measurements, _open := g._open }

theorem rmTail_nil (self : DSelf) (u : AL Nat Nat) (kc : Nat) : rmTail self u kc [] = .ok (self, 0) := rfl

theorem rmTail_all (self : DSelf) (u : AL Nat Nat) (a : Nat) (r : List Nat) :
    rmTail self u 0 (a :: r) = .ok (resetG self, (a :: r).length) := by
  unfold rmTail
  exact congrArg (fun x => x >>= fun s => pure (s, (a :: r).length)) (reset_database_run self)

/-- what the tail does to the index after the swap: `remove` then `update` when auto-indexing, else `invalidate` -/
def tailIdx (auto : Bool) (gi : GSelf) (r : List Nat) (u : AL Nat Nat) : M GSelf :=
  if auto = true then IndexImpl.remove gi r >>= fun i1 => IndexImpl.update i1 u else .ok (IndexImpl.__init__ false)

theorem rmTail_some (self : DSelf) (u : AL Nat Nat) (kc a : Nat) (r : List Nat) :
    rmTail self u (kc + 1) (a :: r) =
      tailIdx self._auto_index self._index (a :: r) u >>= fun i2 => pure (swapG self i2, (a :: r).length) := by
  unfold rmTail tailIdx
  show (if truthy self._auto_index = true then _ else _) >>= _ = _
  rcases Bool.eq_false_or_eq_true self._auto_index with h | h
  · rw [if_pos h, if_pos (show truthy self._auto_index = true from h)]
    cases IndexImpl.remove self._index (a :: r) with
    | error e => rfl
    | ok i1 =>
      show (IndexImpl.update i1 u >>= _) >>= _ = IndexImpl.update i1 u >>= _
      cases IndexImpl.update i1 u <;> rfl
  · have h' : ¬ self._auto_index = true := by rw [h]; exact Bool.false_ne_true
    rw [if_neg h', if_neg (show ¬ truthy self._auto_index = true from h')]
    rfl

theorem tailIdx_ok (auto : Bool) (gi : GSelf) (r : List Nat) (u : AL Nat Nat) (hg : GWF gi)
    (hle : auto = true → r.length ≤ gi._num_items) :
    ∃ i2, tailIdx auto gi r u = .ok i2 ∧ GWF i2
      ∧ IdxEq (abs i2) (if auto = true then ((abs gi).remove r).update u else (abs gi).invalidate) := by
  cases auto with
  | false => exact ⟨_, rfl, gwf_init _, idxEq_refl _⟩
  | true =>
    obtain ⟨i1, e1, hg1, q1⟩ := remove_ok gi r hg (hle rfl)
    obtain ⟨i2, e2, hg2, q2⟩ := update_ok i1 u hg1
    exact ⟨i2, by rw [tailIdx, if_pos rfl, e1, bind_ok, e2], hg2, idxEq_trans q2 (idxEq_update q1 u)⟩

/-- `g` after `self._storage.append([item], temporary=True)` for each row of `k` -/
def addTemp (g : DSelf) (k : List Point) : DSelf :=
  { _auto_index := g._auto_index, _storage := { _items := g._storage._items, _temp := g._storage._temp ++ k },
    _index := g._index, _measurements := g._measurements, _open := g._open }

theorem addTemp_nil (g : DSelf) : addTemp g [] = g := by
  simp [addTemp]

theorem addTemp_addTemp (g : DSelf) (a b : List Point) : addTemp (addTemp g a) b = addTemp g (a ++ b) := by
  simp [addTemp]

/-- the tail on what either rewrite loop leaves (`runFlags_eq`): `self` is `g` with the kept rows appended to temporary
    storage, `keep_count` is their number -/
theorem tail_ok (norm : Point → Point) (g : DSelf) (k : List Point) (r : List Nat) (u : List (Nat × Nat))
    (hg : GWF g._index) (htemp : g._storage._temp = [])
    (hle : g._auto_index = true → r.length ≤ g._index._num_items) :
    RemOk norm (rmTail (addTemp g k) u k.length r) (Writes.removeFinish (absDB norm g) (k, r, u)) := by
  unfold Writes.removeFinish
  cases r with
  | nil => exact ⟨addTemp g k, rmTail_nil _ _ _, stateEq_refl _, hg⟩
  | cons a r =>
    cases k with
    | nil =>
      refine ⟨resetG (addTemp g []), rmTail_all _ _ _ _, ?_, gwf_init _⟩
      show StateEq (absDB norm (resetG (addTemp g []))) (absDB norm (addTemp g [])).resetDatabase
      rw [absDB_resetG]
      exact stateEq_refl _
    | cons p k =>
      obtain ⟨i2, e, hg2, q⟩ := tailIdx_ok g._auto_index g._index (a :: r) u hg hle
      refine ⟨swapG (addTemp g (p :: k)) i2, ?_, ⟨?_, rfl, q⟩, hg2⟩
      · show rmTail (addTemp g (p :: k)) u (k.length + 1) (a :: r) = _
        rw [rmTail_some]
        show tailIdx g._auto_index g._index (a :: r) u >>= _ = _
        rw [e]
        rfl
      · show g._storage._temp ++ (p :: k) = p :: k
        rw [htemp]
        rfl

/-- one step of either rewrite loop, given the row's flag (`true`: the row is removed). The accumulator is
    `(self, updated_items, new_position, keep_count, removed_items)`, the order of the generated loop state -/
def rowStep (b : Bool) (acc : DSelf × AL Nat Nat × Nat × Nat × List Nat) (i : Nat) (p : Point) :
    DSelf × AL Nat Nat × Nat × Nat × List Nat :=
  if b = true then (acc.1, acc.2.1, acc.2.2.1, acc.2.2.2.1, setAdd acc.2.2.2.2 i)
  else (addTemp acc.1 [p], (if (i != acc.2.2.1) = true then setItem acc.2.1 i acc.2.2.1 else acc.2.1),
        acc.2.2.1 + 1, acc.2.2.2.1 + 1, acc.2.2.2.2)

/-- the translated block for a row that stays (three times in the scan-path loop, once in the index-path loop); `k`: what
    follows it -/
def keepRow {β : Type} (self : DSelf) (updated_items : AL Nat Nat) (new_position i : Nat) (item : Point)
    (k : DSelf → AL Nat Nat → M β) : M β := do
            let self := { self with _storage := (← Storage.append self._storage [item] true) }
            let updated_items ← (if (i != new_position) then do
              let updated_items := (setItem updated_items i new_position)
              pure updated_items
            else do
              pure updated_items
            )
            k self updated_items

theorem keepRow_eq {β : Type} (self : DSelf) (u : AL Nat Nat) (np i : Nat) (p : Point) (k : DSelf → AL Nat Nat → M β) :
    keepRow self u np i p k = k (addTemp self [p]) (if (i != np) = true then setItem u i np else u) := by
  unfold keepRow
  by_cases hn : (i != np) = true
  · rw [if_pos hn, if_pos hn]; rfl
  · rw [if_neg hn, if_neg hn]; rfl

theorem lt_succ_of_mem_snoc {l : List Nat} {i : Nat} (h : ∀ x ∈ l, x < i) : ∀ x ∈ l ++ [i], x < i + 1 := by
  intro x hx
  rcases List.mem_append.mp hx with hx | hx
  · exact Nat.lt_succ_of_lt (h x hx)
  · rw [List.mem_singleton.mp hx]; exact Nat.lt_succ_self i

/-- the one renumbering induction: the translated accumulators after the loop are the Model's kept rows, removed positions
    and renumbering, appended -/
theorem runFlags_eq (rows : List Point) : ∀ (flags : List Bool) (i : Nat) (self : DSelf) (u : AL Nat Nat) (np kc : Nat)
    (r : List Nat), (∀ x ∈ r, x < i) → (∀ x ∈ keysAL u, x < i) →
    runFlags rowStep rows flags i (self, u, np, kc, r)
      = (addTemp self (State.scanRemoveLoop (rows.zip flags) i np).1,
         u ++ (State.scanRemoveLoop (rows.zip flags) i np).2.2,
         np + (State.scanRemoveLoop (rows.zip flags) i np).1.length,
         kc + (State.scanRemoveLoop (rows.zip flags) i np).1.length,
         r ++ (State.scanRemoveLoop (rows.zip flags) i np).2.1) := by
  induction rows with
  | nil =>
    intro flags i self u np kc r _ _
    simp [runFlags, State.scanRemoveLoop, addTemp_nil]
  | cons p t ih =>
    intro flags i self u np kc r hr hu
    cases flags with
    | nil => simp [runFlags, State.scanRemoveLoop, addTemp_nil]
    | cons b fl =>
      -- position `i` is new to `r` and to the keys of `u`: `add` and the assignment both append
      have hr' : ∀ x ∈ r, x < i + 1 := fun x hx => Nat.lt_succ_of_lt (hr x hx)
      have hu' : ∀ x ∈ keysAL u, x < i + 1 := fun x hx => Nat.lt_succ_of_lt (hu x hx)
      have hui : ∀ x ∈ keysAL (u ++ [(i, np)]), x < i + 1 := by
        rw [keysAL, List.map_append]
        exact lt_succ_of_mem_snoc hu
      rw [runFlags, List.zip_cons_cons]
      cases b with
      | false =>
        rw [Writes.scan_false]
        simp only [rowStep, Bool.false_eq_true, ↓reduceIte]
        by_cases hn : (i != np) = true
        · simp only [hn, ↓reduceIte]
          rw [setItem_fresh u i np (fun hm => Nat.lt_irrefl _ (hu i hm)), ih fl (i + 1) _ _ _ _ _ hr' hui]
          simp only [addTemp_addTemp, List.cons_append, List.nil_append, List.append_assoc, List.length_cons,
            Prod.mk.injEq, and_true, true_and]
          omega
        · simp only [hn, Bool.false_eq_true, ↓reduceIte]
          rw [ih fl (i + 1) _ _ _ _ _ hr' hu']
          simp only [addTemp_addTemp, List.cons_append, List.nil_append, List.length_cons, Prod.mk.injEq, and_true, true_and]
          omega
      | true =>
        rw [Writes.scan_true]
        simp only [rowStep, ↓reduceIte]
        rw [setAdd_of_not_mem r i (fun hm => Nat.lt_irrefl _ (hr i hm)),
          ih fl (i + 1) _ _ _ _ _ (lt_succ_of_mem_snoc hr) hu']
        simp only [List.append_assoc, List.cons_append, List.nil_append]

theorem rewrite_ok (norm : Point → Point) (g : DSelf) (flags : List Bool)
    (hg : GWF g._index) (htemp : g._storage._temp = [])
    (hlen : g._auto_index = true → g._index._num_items = g._storage._items.length) :
    RemOk norm (let a := runFlags rowStep g._storage._items flags 0 (g, [], 0, 0, []); rmTail a.1 a.2.1 a.2.2.2.1 a.2.2.2.2)
      (Writes.removeFinish (absDB norm g) (State.scanRemoveLoop (g._storage._items.zip flags) 0 0)) := by
  rw [runFlags_eq g._storage._items flags 0 g [] 0 0 [] (by simp) (by simp [keysAL])]
  simp only [List.nil_append, Nat.zero_add]
  apply tail_ok norm g _ _ _ hg htemp
  intro ha
  have h1 := Writes.scanRemoveLoop_length (g._storage._items.zip flags) 0 0
  have h2 : (g._storage._items.zip flags).length ≤ g._storage._items.length := by
    rw [List.length_zip]; exact Nat.min_le_left _ _
  rw [hlen ha]; omega

/-- the translated body of the index-path loop (`keepRow` named) -/
def idxBody (items : List Nat) : DSelf × AL Nat Nat × Nat × Nat × List Nat × Nat → Nat × Point →
    M (DSelf × AL Nat Nat × Nat × Nat × List Nat × Nat) :=
  fun (self, updated_items, new_position, keep_count, removed_items, j) (i, item) => do
              if ((j == (len items)) || (!isin i items)) then do
                keepRow self updated_items new_position i item fun self updated_items =>
                  pure (self, updated_items, new_position + 1, keep_count + 1, removed_items, j)
              else do
                let removed_items := (setAdd removed_items i)
                let j := j + 1
                pure (self, updated_items, new_position, keep_count, removed_items, j)

theorem idxBody_eq (items : List Nat) (self : DSelf) (u : AL Nat Nat) (np kc : Nat) (r : List Nat) (j i : Nat) (p : Point) :
    idxBody items (self, u, np, kc, r, j) (i, p) =
      .ok (if (j == items.length || !items.contains i) = true
           then (addTemp self [p], (if (i != np) = true then setItem u i np else u), np + 1, kc + 1, r, j)
           else (self, u, np, kc, setAdd r i, j + 1)) := by
  unfold idxBody
  simp only [Py.Typed.len, isin, keepRow_eq]
  by_cases hc : (j == items.length || !items.contains i) = true
  · rw [if_pos hc, if_pos hc]; rfl
  · rw [if_neg hc, if_neg hc]; rfl

/-- the index-path loop is `runFlags rowStep` on `Writes.idxFlags`: the counter `j` only decides the flags, so the
    accumulators do not depend on where it ends (`j'`) -/
theorem idx_loop (items : List Nat) (rows : List Point) : ∀ (i : Nat) (self : DSelf) (u : AL Nat Nat) (np kc : Nat)
    (r : List Nat) (j : Nat),
    ∃ j', List.foldlM (idxBody items) (self, u, np, kc, r, j) ((rows.zipIdx i).map (fun xi => (xi.2, xi.1)))
      = .ok (let a := runFlags rowStep rows (Writes.idxFlags items rows i j) i (self, u, np, kc, r);
             (a.1, a.2.1, a.2.2.1, a.2.2.2.1, a.2.2.2.2, j')) := by
  induction rows with
  | nil => intro i self u np kc r j; exact ⟨j, rfl⟩
  | cons p t ih =>
    intro i self u np kc r j
    simp only [List.zipIdx_cons, List.map_cons, List.foldlM_cons, idxBody_eq, bind, Except.bind]
    by_cases hc : (j == items.length || !items.contains i) = true
    · simp only [hc, ↓reduceIte, Writes.idxFlags, runFlags, rowStep, Bool.false_eq_true]
      exact ih (i + 1) _ _ _ _ _ _
    · simp only [hc, Bool.false_eq_true, ↓reduceIte, Writes.idxFlags, runFlags, rowStep]
      exact ih (i + 1) _ _ _ _ _ _

/-- what follows `index_rst = self._index.search(…)` on the index path -/
def idxCont (self : DSelf) (index_rst : IndexResult) : M (DSelf × Nat) := do
      if (!(truthy index_rst._items)) then do
        pure (self, 0)
      else do
        if ((len index_rst._items) == (← IndexImpl.__len__ self._index)) then do
          let self ← _reset_database self 
          pure (self, (len index_rst._items))
        else do
          let (self, updated_items, new_position, keep_count, removed_items, j) ← List.foldlM (idxBody index_rst._items)
            (self, [], 0, 0, [], 0) (enumerate (Storage.iter self._storage))
          rmTail self updated_items keep_count removed_items

/-- the Model's continuation after the index search -/
def mIdx (s : State) (items : List Nat) : State × Nat :=
  if items.isEmpty = true then (s, 0)
  else if (items.length == s.index.numItems) = true then (s.resetDatabase, items.length)
  else Writes.removeFinish s (State.removeLoop items s.storage 0 0 0)

theorem idxCont_ok (norm : Point → Point) (g : DSelf) (items : List Nat) (c : Nat)
    (hg : GWF g._index) (htemp : g._storage._temp = [])
    (hlen : g._auto_index = true → g._index._num_items = g._storage._items.length) :
    RemOk norm (idxCont g { _items := items, _index_count := c }) (mIdx (absDB norm g) items) := by
  unfold idxCont mIdx
  have hL : IndexImpl.__len__ g._index = .ok g._index._num_items := rfl
  have hN : (absDB norm g).index.numItems = g._index._num_items := rfl
  have hS : (absDB norm g).storage = g._storage._items := rfl
  simp only [truthy, Py.Typed.len, hL, hN, hS, reset_database_run, bind, Except.bind, pure, Except.pure, enumerate,
    Storage.iter]
  cases items with
  | nil => exact ⟨g, rfl, stateEq_refl _, hg⟩
  | cons a t =>
    simp only [List.isEmpty_cons, Bool.not_false, Bool.not_true, Bool.false_eq_true, ↓reduceIte]
    by_cases h2 : ((a :: t).length == g._index._num_items) = true
    · simp only [h2, ↓reduceIte]
      refine ⟨resetG g, rfl, ?_, gwf_init _⟩
      rw [absDB_resetG]
      exact stateEq_refl _
    · simp only [h2, Bool.false_eq_true, ↓reduceIte]
      obtain ⟨j', hloop⟩ := idx_loop (a :: t) g._storage._items 0 g [] 0 0 [] 0
      rw [hloop, Writes.removeLoop_flags]
      exact rewrite_ok norm g _ hg htemp hlen

theorem idxCont_agree (g : DSelf) (r r' : IndexResult) (h : Agree r._items r'._items) : idxCont g r = idxCont g r' := by
  have hb : idxBody r._items = idxBody r'._items := by
    funext ⟨self, u, np, kc, rm, j⟩ ⟨i, p⟩
    rw [idxBody_eq, idxBody_eq, h.1, h.2]
  unfold idxCont
  simp only [truthy, Py.Typed.len, hb, h.1, h.isEmpty]
  rfl

/-- `if query(point):` remove the row, else keep it (the translated text; it occurs twice in the scan-path loop) -/
def decideRow {Q : Type} (ext : Ext Q) (query : Q) :
    DSelf × AL Nat Nat × Nat × Nat × List Nat → Nat × Point → M (DSelf × AL Nat Nat × Nat × Nat × List Nat) :=
  fun (self, updated_items, new_position, keep_count, removed_items) (i, item) => do
            let (removed_items, self, updated_items, new_position, keep_count) ← (if (truthy (← ext.call query (Storage._deserialize_storage_item self._storage item))) then do
              let removed_items := (setAdd removed_items i)
              pure (removed_items, self, updated_items, new_position, keep_count)
            else do
              keepRow self updated_items new_position i item fun self updated_items =>
                pure (removed_items, self, updated_items, new_position + 1, keep_count + 1)
            )
            pure (self, updated_items, new_position, keep_count, removed_items)

theorem decideRow_eq (q : Query) (acc : DSelf × AL Nat Nat × Nat × Nat × List Nat) (i : Nat) (p : Point) :
    decideRow modelExt q acc (i, p) = modelExt.call q p >>= fun b => pure (rowStep b acc i p) := by
  obtain ⟨self, u, np, kc, r⟩ := acc
  unfold decideRow rowStep
  simp only [keepRow_eq, Storage._deserialize_storage_item]
  cases modelExt.call q p with
  | error e => rfl
  | ok b => cases b <;> rfl

/-- the translated body of the scan-path loop (repeated blocks named) -/
def scanBody {Q : Type} (ext : Ext Q) (query : Q) (measurement : Option String) :
    DSelf × AL Nat Nat × Nat × Nat × List Nat → Nat × Point → M (DSelf × AL Nat Nat × Nat × Nat × List Nat) :=
  fun (self, updated_items, new_position, keep_count, removed_items) (i, item) => do
        if (truthy measurement) then do
          let _measurement := (Storage._deserialize_measurement self._storage item)
          if (!pyEq _measurement measurement) then do
            keepRow self updated_items new_position i item fun self updated_items =>
              pure (self, updated_items, new_position + 1, keep_count + 1, removed_items)
          else do
            decideRow ext query (self, updated_items, new_position, keep_count, removed_items) (i, item)
        else do
          decideRow ext query (self, updated_items, new_position, keep_count, removed_items) (i, item)

theorem scanBody_eq (q : Query) (m : Option String) (acc : DSelf × AL Nat Nat × Nat × Nat × List Nat) (i : Nat) (p : Point) :
    scanBody modelExt q m acc (i, p) = liftE (State.scanSel q m p) >>= fun b => pure (rowStep b acc i p) := by
  refine Eq.trans ?_ (scanSel_bind q m p fun b => pure (rowStep b acc i p))
  obtain ⟨self, u, np, kc, r⟩ := acc
  unfold scanBody
  simp only [keepRow_eq, decideRow_eq, Storage._deserialize_measurement]
  cases truthy m <;> cases (!pyEq p.meas m) <;> rfl

theorem removeHelper_via (s : State) (q : Query) (m : Option String) :
    s.removeHelper q m = mVia s q m (fun items => pure (mIdx s items))
      ((s.storage.mapM (State.scanSel q m)).map fun flags => Writes.removeFinish s (State.scanRemoveLoop (s.storage.zip flags) 0 0)) := by
  rw [Writes.removeHelper_eq]
  unfold mVia mIdx
  simp only [apply_ite (pure : State × Nat → Except Exc (State × Nat))]
  rfl

/-- tie of `DatabaseImpl._remove_helper` to its copies `rmTail`, `keepRow`, `idxBody`, `idxCont`, `decideRow`, `scanBody`
    (evaluated by `rmTail_nil`, `rmTail_all`, `rmTail_some`, `keepRow_eq`, `idxBody_eq`, `idxCont_ok`, `decideRow_eq`,
    `scanBody_eq`); repair: DESIGN.md 3.4, "When the translation changes" -/
theorem remove_helper_eq {Q : Type} (ext : Ext Q) (self : DSelf) (query : Q) (measurement : Option String) :
    _remove_helper ext self query measurement = (do
      if (self._index._valid && ext.index_is_exact query) then do
        if (truthy measurement) then do
          let index_rst ← ext.index_search self._index (ext.qand (ext.meas_eq measurement) query)
          idxCont self index_rst
        else do
          let index_rst ← ext.index_search self._index query
          idxCont self index_rst
      else do
        let (self, updated_items, new_position, keep_count, removed_items) ← List.foldlM (scanBody ext query measurement)
          (self, [], 0, 0, []) (enumerate (Storage.iter self._storage))
        rmTail self updated_items keep_count removed_items) := by
  rfl

theorem remove_helper_via (srch : GSelf → Query → M IndexResult) (g : DSelf) (q : Query) (m : Option String) :
    _remove_helper (extWith srch) g q m = via srch g q m (idxCont g) (do
      let (self, updated_items, new_position, keep_count, removed_items) ← List.foldlM (scanBody modelExt q m)
        (g, [], 0, 0, []) (enumerate (Storage.iter g._storage))
      rmTail self updated_items keep_count removed_items) :=
  (remove_helper_eq (extWith srch) g q m).trans (via_eq srch g q m _ _)

def RemSim (norm : Point → Point) (x : M (DSelf × Nat)) (y : Except Exc (State × Nat)) : Prop :=
  (∀ s' n, y = .ok (s', n) → RemOk norm x (s', n)) ∧ ∀ e, y = .error e → ∃ e', x = .error e'

theorem remSim_ok (norm : Point → Point) {x : M (DSelf × Nat)} {t : State × Nat} (h : RemOk norm x t) :
    RemSim norm x (.ok t) :=
  ⟨fun _ _ e => (by cases e; exact h), fun _ e => (by cases e)⟩

theorem remSim_error (norm : Point → Point) {x : M (DSelf × Nat)} {e : Exc} (h : ∃ e', x = .error e') :
    RemSim norm x (.error e) :=
  ⟨fun _ _ e => (by cases e), fun _ _ => h⟩

theorem remove_helper_sim (norm : Point → Point) (srch : GSelf → Query → M IndexResult) (g : DSelf) (q : Query)
    (m : Option String) (hg : GWF g._index) (htemp : g._storage._temp = [])
    (hlen : g._auto_index = true → g._index._num_items = g._storage._items.length)
    (hs : SearchSim (srch g._index (idxQuery q m)) ((abs g._index).search (idxQuery q m))) :
    RemSim norm (DatabaseImpl._remove_helper (extWith srch) g q m) ((absDB norm g).removeHelper q m) := by
  rw [removeHelper_via, remove_helper_via]
  refine via_rel (RemSim norm) norm srch g q m ?_ ?_
  · refine searchSim_bind (RemSim norm) (fun e _ => remSim_error norm ⟨e, rfl⟩) hs fun x items hag => ?_
    show RemSim norm (idxCont g x) (.ok (mIdx (absDB norm g) items))
    rw [idxCont_agree g x ⟨items, 0⟩ hag]
    exact remSim_ok norm (idxCont_ok norm g items 0 hg htemp hlen)
  · show RemSim norm _ ((g._storage._items.mapM (State.scanSel q m)).map _)
    simp only [enumerate, Storage.iter]
    rw [foldlM_flags (State.scanSel q m) (scanBody modelExt q m) rowStep (scanBody_eq q m)]
    cases List.mapM (State.scanSel q m) g._storage._items with
    | error e => exact remSim_error norm ⟨errOf e, rfl⟩
    | ok flags => exact remSim_ok norm (rewrite_ok norm g flags hg htemp hlen)

theorem remove_helper_ok (norm : Point → Point) (g : DSelf) (q : Query) (m : Option String)
    (hg : GWF g._index) (htemp : g._storage._temp = [])
    (hlen : g._auto_index = true → g._index._num_items = g._storage._items.length) :
    match (absDB norm g).removeHelper q m with
    | .ok (s', n) => ∃ g', DatabaseImpl._remove_helper modelExt g q m = .ok (g', n) ∧ StateEq (absDB norm g') s'
        ∧ GWF g'._index
    | .error _ => ∃ e', DatabaseImpl._remove_helper modelExt g q m = .error e' := by
  have h := remove_helper_sim norm _ g q m hg htemp hlen (modelExt_sim _ _)
  cases hm : (absDB norm g).removeHelper q m with
  | ok t => obtain ⟨s', n⟩ := t; exact h.1 s' n hm
  | error e => exact h.2 e hm

end TinyFlux.Mirror
