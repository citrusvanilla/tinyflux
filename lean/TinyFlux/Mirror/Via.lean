import TinyFlux.Mirror.Scan
/-!
The dispatch every query-taking method of `TinyFlux` starts with — `if self._index.valid and index_is_exact(query):` search
the index (for `mq & query` when a measurement is given) and continue with the positions found, else scan — is `via` on the
translated side and `mVia` on the Model's. A method is mirrored by handing `via_sim` / `via_okSim` / `via_model` its two
continuations and its two scans. `OkSim` and `ResSim` (and `RemSim`) are spelt without `match`: a `match` of the same shape
stated earlier in a module takes over the matcher that the elaborated statement of a later theorem names
(`remove_helper_ok`, `db_remove_closed`, …).
In the names of the database-level files a prefix `m` marks the Model's side of a translated piece (`mVia`, `mFound`, `mIdx`)
and `s` / `g` the piece of `search` / `get` (`sScan`, `gFin`); throughout `Mirror/` a suffix `G` marks a generated state
(`insG`, `resetG`, `swapG`).
-/
namespace TinyFlux.Mirror
open TinyFlux.Model TinyFlux.Spec TinyFlux.Py.Typed
open TinyFlux.Generated

/-- for `contains` and `get`, which leave their scan at the first match while the Model looks at every row: nothing is
    claimed when the Model raises -/
def OkSim {α : Type} (x : M α) (y : Except Exc α) : Prop := ∀ b, y = .ok b → x = .ok b

def ResSim {α : Type} (x : M α) (y : Except Exc α) : Prop := OkSim x y ∧ ∀ e, y = .error e → ∃ e', x = .error e'

theorem ResSim.of_eq {α : Type} {x : M α} {y : Except Exc α} (h : x = liftE y) : ResSim x y := by
  subst h
  exact ⟨fun _ h => h ▸ rfl, fun _ h => h ▸ ⟨_, rfl⟩⟩

theorem OkSim.of_map {α β : Type} {x : M β} {y : Except Exc α} {f : α → β} (h : ∀ a, y = .ok a → x = .ok (f a)) :
    OkSim x (y.map f) := by
  intro b hb
  cases y with
  | error e => cases hb
  | ok a => cases hb; exact h a rfl

/-- position lists that `len`, `in` and truthiness cannot tell apart -/
def Agree (a b : List Nat) : Prop := a.length = b.length ∧ ∀ i, a.contains i = b.contains i

theorem Agree.rfl {a : List Nat} : Agree a a := ⟨Eq.refl _, fun _ => Eq.refl _⟩

theorem Agree.isEmpty {a b : List Nat} (h : Agree a b) : a.isEmpty = b.isEmpty := by
  have := h.1
  cases a <;> cases b <;> simp at this ⊢

def SearchSim (r : M IndexResult) (r' : Except Exc (List Nat)) : Prop :=
  match r' with
  | .ok items => ∃ x, r = .ok x ∧ Agree x._items items
  | .error _ => ∃ e, r = .error e

theorem modelExt_sim (idx : GSelf) (q' : Query) : SearchSim (modelExt.index_search idx q') ((abs idx).search q') := by
  show SearchSim (match (abs idx).search q' with
    | .ok l => .ok { _items := l, _index_count := idx._num_items }
    | .error e => .error (errOf e)) _
  cases (abs idx).search q' with
  | ok items => exact ⟨_, rfl, Agree.rfl⟩
  | error e => exact ⟨_, rfl⟩

theorem searchSim_bind {α β : Type} (P : M α → Except Exc β → Prop) (hE : ∀ e e', P (.error e) (.error e'))
    {r : M IndexResult} {r' : Except Exc (List Nat)} (h : SearchSim r r')
    {K : IndexResult → M α} {K' : List Nat → Except Exc β}
    (hK : ∀ x items, Agree x._items items → P (K x) (K' items)) : P (r >>= K) (r' >>= K') := by
  unfold SearchSim at h
  cases r' with
  | ok items =>
    obtain ⟨x, rfl, hx⟩ := h
    exact hK x items hx
  | error e =>
    obtain ⟨e', rfl⟩ := h
    exact hE e' e

/-- the query handed to `Index.search` on the index path: `mq & query` when a measurement is given -/
def idxQuery (q : Query) (m : Option String) : Query :=
  if truthy m = true then modelExt.qand (modelExt.meas_eq m) q else q

theorem indexSearch_eq (norm : Point → Point) (g : DSelf) (q : Query) (m : Option String) :
    (absDB norm g).indexSearch q m = (abs g._index).search (idxQuery q m) := by
  obtain ⟨h1, h2⟩ := truthy_effMeas m
  unfold State.indexSearch idxQuery
  rw [h1]
  cases h : effMeas m with
  | none => rfl
  | some name => rw [h2 name h]; rfl

def via {α : Type} (srch : GSelf → Query → M IndexResult) (g : DSelf) (q : Query) (m : Option String)
    (K : IndexResult → M α) (S : M α) : M α :=
  if (g._index._valid && exact q) = true then srch g._index (idxQuery q m) >>= K else S

def mVia {α : Type} (s : State) (q : Query) (m : Option String) (K : List Nat → Except Exc α) (S : Except Exc α) :
    Except Exc α :=
  if (s.index.valid && exact q) = true then s.indexSearch q m >>= K else S

theorem mVia_map {α : Type} (s : State) (q : Query) (m : Option String) (f : List Nat → α) (S : Except Exc α) :
    (if s.index.valid && exact q then (s.indexSearch q m).map f else S)
      = mVia s q m (fun items => pure (f items)) S := by
  unfold mVia
  by_cases hc : (s.index.valid && exact q) = true
  · rw [if_pos hc, if_pos hc]
    cases s.indexSearch q m <;> rfl
  · rw [if_neg hc, if_neg hc]

/-- the dispatch as generated (`if measurement:` inside `if use_index:`) is `via`; the translated methods unfold to the
    left-hand side, so each is a `via` by this lemma and a definitional check -/
theorem via_eq {α : Type} (srch : GSelf → Query → M IndexResult) (g : DSelf) (q : Query) (m : Option String)
    (K : IndexResult → M α) (S : M α) :
    (if (g._index._valid && exact q) = true then
      (if truthy m = true then srch g._index (.and (modelExt.meas_eq m) q) >>= K else srch g._index q >>= K)
     else S) = via srch g q m K S := by
  unfold via idxQuery
  by_cases hc : (g._index._valid && exact q) = true
  · rw [if_pos hc, if_pos hc]
    by_cases hm : truthy m = true
    · rw [if_pos hm, if_pos hm]; rfl
    · rw [if_neg hm, if_neg hm]
  · rw [if_neg hc, if_neg hc]

/-- the continuation matters only where the dispatch condition holds: `search` and `get` hand `use_index`, which is that
    condition, on to their continuation, and there it is `true` (`search_via`, `get_via`) -/
theorem via_congr {α : Type} (srch : GSelf → Query → M IndexResult) (g : DSelf) (q : Query) (m : Option String)
    {K K' : IndexResult → M α} (S : M α) (h : (g._index._valid && exact q) = true → K = K') :
    via srch g q m K S = via srch g q m K' S := by
  unfold via
  by_cases hc : (g._index._valid && exact q) = true
  · rw [h hc]
  · rw [if_neg hc, if_neg hc]

/-- general in `P` because `remove_helper_sim` needs it at `RemSim` -/
theorem via_rel {α β : Type} (P : M α → Except Exc β → Prop) (norm : Point → Point) (srch : GSelf → Query → M IndexResult)
    (g : DSelf) (q : Query) (m : Option String) {K : IndexResult → M α} {K' : List Nat → Except Exc β} {S : M α}
    {S' : Except Exc β} (hK : P (srch g._index (idxQuery q m) >>= K) ((abs g._index).search (idxQuery q m) >>= K'))
    (hS : P S S') : P (via srch g q m K S) (mVia (absDB norm g) q m K' S') := by
  unfold via mVia
  rw [indexSearch_eq]
  show P (if (g._index._valid && exact q) = true then _ else _) (if (g._index._valid && exact q) = true then _ else _)
  by_cases hc : (g._index._valid && exact q) = true
  · rw [if_pos hc, if_pos hc]; exact hK
  · rw [if_neg hc, if_neg hc]; exact hS

theorem via_model {α : Type} (norm : Point → Point) (g : DSelf) (q : Query) (m : Option String)
    {K : IndexResult → M α} {K' : List Nat → Except Exc α} {S : M α} {S' : Except Exc α}
    (hK : ∀ items c, K { _items := items, _index_count := c } = liftE (K' items)) (hS : S = liftE S') :
    via modelExt.index_search g q m K S = liftE (mVia (absDB norm g) q m K' S') := by
  refine via_rel (fun x y => x = liftE y) norm _ g q m ?_ hS
  show ((match (abs g._index).search (idxQuery q m) with
    | .ok l => Except.ok { _items := l, _index_count := g._index._num_items }
    | .error e => Except.error (errOf e)) >>= K) = _
  cases (abs g._index).search (idxQuery q m) with
  | ok items => exact hK items _
  | error e => rfl

theorem via_sim {α : Type} (norm : Point → Point) (srch : GSelf → Query → M IndexResult) (g : DSelf) (q : Query)
    (m : Option String) (hs : SearchSim (srch g._index (idxQuery q m)) ((abs g._index).search (idxQuery q m)))
    {K : IndexResult → M α} {K' : List Nat → Except Exc α} {S : M α} {S' : Except Exc α}
    (hK : ∀ x items, Agree x._items items → ResSim (K x) (K' items)) (hS : ResSim S S') :
    ResSim (via srch g q m K S) (mVia (absDB norm g) q m K' S') :=
  via_rel ResSim norm srch g q m
    (searchSim_bind ResSim (fun e _ => ⟨fun _ h => (by cases h), fun _ _ => ⟨e, rfl⟩⟩) hs hK) hS

theorem via_okSim {α : Type} (norm : Point → Point) (srch : GSelf → Query → M IndexResult) (g : DSelf) (q : Query)
    (m : Option String) (hs : SearchSim (srch g._index (idxQuery q m)) ((abs g._index).search (idxQuery q m)))
    {K : IndexResult → M α} {K' : List Nat → Except Exc α} {S : M α} {S' : Except Exc α}
    (hK : ∀ x items, Agree x._items items → OkSim (K x) (K' items)) (hS : OkSim S S') :
    OkSim (via srch g q m K S) (mVia (absDB norm g) q m K' S') :=
  via_rel OkSim norm srch g q m (searchSim_bind OkSim (fun _ _ _ h => (by cases h)) hs hK) hS

end TinyFlux.Mirror
