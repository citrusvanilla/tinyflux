import TinyFlux.Mirror.Translated
import TinyFlux.Mirror.DbRemoveHelper
/-!
`_remove_helper` (mirrored in `Mirror/DbRemoveHelper.lean`) over `translatedExt`: a removal then runs on translated code all the way
down — `Index.search`, `_search_helper`, the leaf searches, `find_*`, `Index.remove / update / invalidate / _reset`; outside
stay `query(point)`, `index_is_exact` and the storage object.
-/
namespace TinyFlux.Mirror
open TinyFlux.Model TinyFlux.Spec TinyFlux.Py.Typed
open TinyFlux.Generated

theorem remove_helper_closed (norm : Point → Point) (g : DSelf) (q : Query) (m : Option String)
    (hg : GWF g._index) (hts : g._index._timestamps.length = g._index._storage_pos_sorted_by_ts.length)
    (htemp : g._storage._temp = [])
    (hlen : g._auto_index = true → g._index._num_items = g._storage._items.length) :
    match (absDB norm g).removeHelper q m with
    | .ok (s', n) => ∃ g', DatabaseImpl._remove_helper translatedExt g q m = .ok (g', n) ∧ StateEq (absDB norm g') s'
        ∧ GWF g'._index
    | .error _ => ∃ e', DatabaseImpl._remove_helper translatedExt g q m = .error e' := by
  have h := remove_helper_sim norm _ g q m hg htemp hlen (translatedExt_sim _ hg hts _)
  cases hm : (absDB norm g).removeHelper q m with
  | ok t => obtain ⟨s', n⟩ := t; exact h.1 s' n hm
  | error e => exact h.2 e hm

end TinyFlux.Mirror
