import TinyFlux.Mirror.Via
/-!
What `search` and `get` of database.py share: both follow the index path with the same steps (the translated text is the
same up to the loops): nothing found → the default answer; every position found → `use_index = False`, scan after all;
otherwise a loop over `enumerate(storage)` that picks the rows at the positions found (`selRows`) and leaves early.
`useIndexCont` is that skeleton; `State.found` is the Model's side of it (`found_via`).
-/
namespace TinyFlux.Mirror
open TinyFlux.Model TinyFlux.Spec TinyFlux.Py.Typed
open TinyFlux.Generated

/-- what follows `index_rst = self._index.search(…)` in `search` and `get` (the translated text; `dflt`, the two loops and the
    tail `fin` are what differs) -/
def useIndexCont {α β : Type} (self : DSelf) (use_index : Bool) (index_rst : IndexResult) (dflt : M α)
    (idxLoop scanLoop : M β) (fin : β → M α) : M α := do
  if (!(truthy index_rst._items)) then dflt
  else do
    let use_index ← (if ((len index_rst._items) == (← IndexImpl.__len__ self._index)) then do
      let use_index := false
      pure use_index
    else do
      pure use_index
    )
    let r ← (if (truthy use_index) then idxLoop else scanLoop)
    fin r

theorem useIndexCont_eq {α β : Type} (g : DSelf) (x : IndexResult) (items : List Nat) (h : Agree x._items items)
    (dflt : M α) (idxLoop scanLoop : M β) (fin : β → M α) :
    useIndexCont g true x dflt idxLoop scanLoop fin
      = if items.isEmpty = true then dflt
        else if (items.length == g._index._num_items) = true then scanLoop >>= fin else idxLoop >>= fin := by
  have hti : truthy x._items = !items.isEmpty := congrArg (!·) h.isEmpty
  unfold useIndexCont
  show (if (!truthy x._items) = true then dflt else
    (if (x._items.length == g._index._num_items) = true then (pure false : M Bool) else pure true) >>= _) = _
  rw [hti, h.1, Bool.not_not]
  by_cases he : items.isEmpty = true
  · rw [if_pos he, if_pos he]
  · rw [if_neg he, if_neg he]
    by_cases hall : (items.length == g._index._num_items) = true
    · rw [if_pos hall, if_pos hall]; rfl
    · rw [if_neg hall, if_neg hall]; rfl

def selRows (items : List Nat) (rows : List Point) (i : Nat) : List Point :=
  ((rows.zipIdx i).filter (fun pi => items.contains pi.2)).map (·.1)

theorem selRows_cons (items : List Nat) (p : Point) (t : List Point) (i : Nat) :
    selRows items (p :: t) i = if items.contains i = true then p :: selRows items t (i + 1) else selRows items t (i + 1) := by
  unfold selRows
  rw [List.zipIdx_cons, List.filter_cons]
  split <;> simp

/-- the continuation of `State.found` on the index path -/
def mFound (s : State) (q : Query) (m : Option String) (items : List Nat) : Except Exc (List Point) :=
  if items.isEmpty = true then .ok []
  else if (items.length == s.index.numItems) = true then s.storage.filterM (State.scanSel q m)
  else .ok (s.rowsAt items)

theorem found_via {α : Type} (s : State) (q : Query) (m : Option String) (f : List Point → α) :
    (s.found q m true).map f
      = mVia s q m (fun items => (mFound s q m items).map f) ((s.storage.filterM (State.scanSel q m)).map f) := by
  unfold mVia State.found
  by_cases hc : (s.index.valid && exact q) = true
  · rw [if_pos hc, if_pos hc]
    cases s.indexSearch q m with
    | error e => rfl
    | ok items => simp only [mFound, bind, Except.bind, pure, Except.pure, Bool.true_and]
  · rw [if_neg hc, if_neg hc]

end TinyFlux.Mirror
