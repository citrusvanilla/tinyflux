import TinyFlux.Mirror.RemoveClosed
/-!
The two public entry points of a removal (their decorators — `read_op` = `State.readOp`, the access gates, the temporary
storage around the call — are table-extracted: `Generated/Decorators.lean`, C15): `remove` hands its arguments to
`_remove_helper`; `drop_measurement` forgets the cached handle of that name and calls `_remove_helper(MeasurementQuery() == name,
name)`. That the Model's `.remove` / `.drop` steps are `readOp` followed by `removeHelper` is read off `State.step`, no theorem
here says it.
-/
namespace TinyFlux.Mirror
open TinyFlux.Model TinyFlux.Spec TinyFlux.Py.Typed
open TinyFlux.Generated

theorem db_remove_closed (norm : Point → Point) (g : DSelf) (q : Query) (m : Option String)
    (hg : GWF g._index) (hts : g._index._timestamps.length = g._index._storage_pos_sorted_by_ts.length)
    (htemp : g._storage._temp = [])
    (hlen : g._auto_index = true → g._index._num_items = g._storage._items.length) :
    match (absDB norm g).removeHelper q m with
    | .ok (s', n) => ∃ g', DatabaseImpl.remove translatedExt g q m = .ok (g', n) ∧ StateEq (absDB norm g') s'
        ∧ GWF g'._index
    | .error _ => ∃ e', DatabaseImpl.remove translatedExt g q m = .error e' :=
  remove_helper_closed norm g q m hg hts htemp hlen

theorem absDB_measurements (norm : Point → Point) (g : DSelf) (ms : AL String Unit) :
    absDB norm { g with _measurements := ms } = absDB norm g := rfl

theorem db_drop_closed (norm : Point → Point) (g : DSelf) (name : String)
    (hg : GWF g._index) (hts : g._index._timestamps.length = g._index._storage_pos_sorted_by_ts.length)
    (htemp : g._storage._temp = [])
    (hlen : g._auto_index = true → g._index._num_items = g._storage._items.length) :
    match (absDB norm g).removeHelper (.meas (.cmp .eq (.str name))) (some name) with
    | .ok (s', n) => ∃ g', DatabaseImpl.drop_measurement translatedExt g name = .ok (g', n) ∧ StateEq (absDB norm g') s'
        ∧ GWF g'._index
    | .error _ => ∃ e', DatabaseImpl.drop_measurement translatedExt g name = .error e' := by
  -- the helper is called on `g` or on `g` without the cached handle: the same index, storage and flag
  have hrun : ∃ ms, DatabaseImpl.drop_measurement translatedExt g name
      = DatabaseImpl._remove_helper translatedExt { g with _measurements := ms } (.meas (.cmp .eq (.str name))) (some name) := by
    by_cases hin : isin name g._measurements = true
    · exact ⟨delItem g._measurements name, by
        simp only [DatabaseImpl.drop_measurement, hin, if_true, bind, Except.bind, pure, Except.pure]; rfl⟩
    · exact ⟨g._measurements, by
        simp only [DatabaseImpl.drop_measurement, hin, Bool.false_eq_true, if_false, bind, Except.bind, pure, Except.pure]; rfl⟩
  obtain ⟨ms, hrun⟩ := hrun
  rw [hrun]
  have h := remove_helper_closed norm { g with _measurements := ms } (.meas (.cmp .eq (.str name))) (some name) hg hts htemp hlen
  rwa [absDB_measurements] at h

end TinyFlux.Mirror
