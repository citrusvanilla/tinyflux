import TinyFlux.Mirror.DbDefs
/-!
`_reset_database` (empty storage, a fresh index that is valid iff the database indexes automatically), `remove_all` (which is
`_reset_database`) and `reindex`: the gate `assert self._storage.can_read`, nothing to do for a valid index, otherwise the
*translated* `Index.build` over the deserialised rows. `reindex` is what `read_op` calls to rebuild an invalid index.
-/
namespace TinyFlux.Mirror
open TinyFlux.Model TinyFlux.Spec TinyFlux.Py.Typed
open TinyFlux.Generated

/-- the state `_reset_database` leaves (`_measurements`: the cached measurement handles) -/
def resetG (g : DSelf) : DSelf :=
  { _auto_index := g._auto_index, _storage := { _items := [], _temp := g._storage._temp },
    _index := IndexImpl.__init__ g._auto_index, _measurements := [], _open := g._open }

theorem reset_database_run (g : DSelf) : DatabaseImpl._reset_database g = .ok (resetG g) := by
  unfold DatabaseImpl._reset_database resetG
  cases h : g._auto_index <;>
  simp only [Storage.reset, truthy, reset_ok, invalidate_ok, bind, Except.bind, pure, Except.pure, id] <;> rfl

theorem absDB_resetG (norm : Point → Point) (g : DSelf) : absDB norm (resetG g) = (absDB norm g).resetDatabase := by
  cases h : g._auto_index <;> simp only [resetG, absDB, State.resetDatabase, h] <;> rfl

theorem reset_database_ok (norm : Point → Point) (g : DSelf) :
    ∃ g', DatabaseImpl._reset_database g = .ok g' ∧ absDB norm g' = (absDB norm g).resetDatabase
      ∧ g'._storage._temp = g._storage._temp ∧ GWF g'._index :=
  ⟨_, reset_database_run g, absDB_resetG norm g, rfl, gwf_init _⟩

theorem remove_all_ok (norm : Point → Point) (g : DSelf) :
    ∃ g', DatabaseImpl.remove_all g = .ok g' ∧ absDB norm g' = ((absDB norm g).step .removeAll).1 := by
  refine ⟨resetG g, ?_, absDB_resetG norm g⟩
  unfold DatabaseImpl.remove_all
  rw [reset_database_run]

theorem reindex_ok (norm : Point → Point) (g : DSelf) :
    ∃ g', DatabaseImpl.reindex g = .ok g' ∧ g'._storage = g._storage ∧ g'._auto_index = g._auto_index
      ∧ (g._index._valid = true → g' = g)
      ∧ (g._index._valid = false → GWF g'._index ∧ g'._index._valid = true
            ∧ IdxEq (abs g'._index) (Index.build g._storage._items)) := by
  have _ := norm  -- plays no part: the statement is about the translated state alone
  by_cases hv : g._index._valid = true
  · refine ⟨g, ?_, rfl, rfl, ?_, ?_⟩
    · simp [DatabaseImpl.reindex, Storage.can_read, truthy, IndexImpl.valid, hv, bind, Except.bind, pure, Except.pure]
    · intro _; rfl
    · intro h; rw [hv] at h; cases h
  · have hv' : g._index._valid = false := by simpa using hv
    obtain ⟨i', h1, h2, h3⟩ := build_ok g._index g._storage._items
    refine ⟨{ g with _index := i' }, ?_, rfl, rfl, ?_, ?_⟩
    · simp [DatabaseImpl.reindex, Storage.can_read, truthy, IndexImpl.valid, hv', bind, Except.bind, pure, Except.pure,
        Storage.iter, Storage._deserialize_storage_item, h1]
    · intro h; rw [hv'] at h; cases h
    · intro _
      refine ⟨h2, ?_, h3⟩
      have := h3.valid
      simpa [abs, Index.build] using this

theorem reindex_is_the_models (norm : Point → Point) (g : DSelf) :
    ∃ g', DatabaseImpl.reindex g = .ok g'
      ∧ StateEq (absDB norm g') ((absDB norm g).step .reindex).1 := by
  obtain ⟨g', h1, hs, ha, hvalid, hinv⟩ := reindex_ok norm g
  refine ⟨g', h1, ?_⟩
  by_cases hv : g._index._valid = true
  · have := hvalid hv; subst this
    refine ⟨?_, ?_, ?_⟩ <;> simp [State.step, absDB, abs, hv, idxEq_refl]
  · have hv' : g._index._valid = false := by simpa using hv
    obtain ⟨_, _, h3⟩ := hinv hv'
    refine ⟨?_, ?_, ?_⟩
    · simp [State.step, absDB, abs, hv', hs]
    · simp [State.step, absDB, abs, hv', ha]
    · simpa [State.step, absDB, abs, hv'] using h3

end TinyFlux.Mirror
