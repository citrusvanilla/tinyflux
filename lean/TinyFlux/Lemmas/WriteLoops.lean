import TinyFlux.Lemmas.Reads
/-! The parts of the write helpers, each on its own, before `Writes.lean` puts them into a state: the two loops of
    `_remove_helper` as one loop over the rows with their selection flags (`removeLoop_eq`, `scanRemoveLoop_spec`) and the
    tail they share (`removeFinish`), the loop of `_update_helper` row by row (`updRow`). -/
namespace TinyFlux.Model
open TinyFlux.Spec

namespace Writes

theorem scan_nil (i np : Nat) : State.scanRemoveLoop [] i np = ([], [], []) := rfl
theorem scan_false (p : Point) (t : List (Point × Bool)) (i np : Nat) :
    State.scanRemoveLoop ((p, false) :: t) i np =
      (p :: (State.scanRemoveLoop t (i + 1) (np + 1)).1, (State.scanRemoveLoop t (i + 1) (np + 1)).2.1,
       if i != np then (i, np) :: (State.scanRemoveLoop t (i + 1) (np + 1)).2.2
       else (State.scanRemoveLoop t (i + 1) (np + 1)).2.2) := rfl
theorem scan_true (p : Point) (t : List (Point × Bool)) (i np : Nat) :
    State.scanRemoveLoop ((p, true) :: t) i np =
      ((State.scanRemoveLoop t (i + 1) np).1, i :: (State.scanRemoveLoop t (i + 1) np).2.1,
       (State.scanRemoveLoop t (i + 1) np).2.2) := rfl

theorem scanRemoveLoop_kept (keep : Nat → Bool) (l : List Point) :
    ∀ (i np : Nat),
    (State.scanRemoveLoop ((l.zipIdx i).map (fun pn => (pn.1, !keep pn.2))) i np).1 = keepIdx keep l i := by
  induction l with
  | nil => intro i np; rfl
  | cons p t ih =>
    intro i np
    simp only [List.zipIdx_cons, List.map_cons]
    cases hk : keep i
    · simp only [Bool.not_false, scan_true, keepIdx, hk, ih, Bool.false_eq_true, if_false]
    · simp only [Bool.not_true, scan_false, keepIdx, hk, ih, if_true]

theorem scanRemoveLoop_removed (keep : Nat → Bool) (l : List Point) :
    ∀ (i np : Nat),
    (State.scanRemoveLoop ((l.zipIdx i).map (fun pn => (pn.1, !keep pn.2))) i np).2.1 =
      (List.range' i l.length).filter (fun n => !keep n) := by
  induction l with
  | nil => intro i np; rfl
  | cons p t ih =>
    intro i np
    simp only [List.zipIdx_cons, List.map_cons, List.length_cons, List.range'_succ, List.filter_cons]
    cases hk : keep i
    · simp only [Bool.not_false, scan_true, ih, if_true]
    · simp only [Bool.not_true, scan_false, ih, Bool.false_eq_true, if_false]

theorem scanRemoveLoop_length (rows : List (Point × Bool)) :
    ∀ (i np : Nat),
    (State.scanRemoveLoop rows i np).2.1.length + (State.scanRemoveLoop rows i np).1.length = rows.length := by
  induction rows with
  | nil => intro i np; rfl
  | cons r t ih =>
    intro i np
    obtain ⟨p, b⟩ := r
    cases b
    · simp only [scan_false, List.length_cons]; have := ih (i + 1) (np + 1); omega
    · simp only [scan_true, List.length_cons]; have := ih (i + 1) np; omega

theorem scanRemoveLoop_updated_lt (keep : Nat → Bool) (l : List Point) :
    ∀ (i np n : Nat), n < i →
    (State.scanRemoveLoop ((l.zipIdx i).map (fun pn => (pn.1, !keep pn.2))) i np).2.2.lookup n = none := by
  induction l with
  | nil => intro i np n _; rfl
  | cons p t ih =>
    intro i np n hn
    simp only [List.zipIdx_cons, List.map_cons]
    cases hk : keep i <;> simp only [Bool.not_false, Bool.not_true, scan_true, scan_false]
    · exact ih (i + 1) np n (by omega)
    · rw [lookup_ite_cons_ne _ (by omega)]
      exact ih (i + 1) (np + 1) n (by omega)

theorem scanRemoveLoop_updated (keep : Nat → Bool) (l : List Point) :
    ∀ (i np n : Nat), i ≤ n → n < i + l.length → keep n = true →
    ((State.scanRemoveLoop ((l.zipIdx i).map (fun pn => (pn.1, !keep pn.2))) i np).2.2.lookup n).getD n =
      np + cnt keep i n := by
  induction l with
  | nil => intro i np n h1 h2 _; simp only [List.length_nil] at h2; omega
  | cons p t ih =>
    intro i np n h1 h2 hkn
    simp only [List.length_cons] at h2
    simp only [List.zipIdx_cons, List.map_cons]
    by_cases hn : n = i
    · -- the head: kept, and either recorded here or (when `i = np`) nowhere
      subst hn
      simp only [hkn, Bool.not_true, scan_false, cnt_self, Nat.add_zero]
      split
      · simp
      · rename_i hne
        rw [scanRemoveLoop_updated_lt keep t (n + 1) (np + 1) n (Nat.lt_succ_self n)]
        simpa using hne
    · -- a later position: the head only shifts the count
      have hlt : i < n := by omega
      rw [cnt_succ_left keep i n hlt]
      cases hk : keep i <;> simp only [Bool.not_false, Bool.not_true, scan_true, scan_false]
      · rw [ih (i + 1) np n (by omega) (by omega) hkn, if_neg Bool.false_ne_true, Nat.zero_add]
      · rw [lookup_ite_cons_ne _ hn, ih (i + 1) (np + 1) n (by omega) (by omega) hkn, if_pos trivial]
        omega

/-- the per-row decisions of the index-path loop of `_remove_helper`: a row is removed while fewer than
    `len(items)` rows have been (`j` counts them) and its position is among `items` -/
def idxFlags (items : List Nat) : List Point → (i j : Nat) → List Bool
  | [], _, _ => []
  | _ :: t, i, j =>
    if j == items.length || !items.contains i then false :: idxFlags items t (i + 1) j
    else true :: idxFlags items t (i + 1) (j + 1)

theorem removeLoop_keep (items : List Nat) (p : Point) (t : List Point) (i j np : Nat)
    (h : (j == items.length || !items.contains i) = true) :
    State.removeLoop items (p :: t) i j np =
      (p :: (State.removeLoop items t (i + 1) j (np + 1)).1, (State.removeLoop items t (i + 1) j (np + 1)).2.1,
       if i != np then (i, np) :: (State.removeLoop items t (i + 1) j (np + 1)).2.2
       else (State.removeLoop items t (i + 1) j (np + 1)).2.2) := by
  rw [State.removeLoop, if_pos h]

theorem removeLoop_drop (items : List Nat) (p : Point) (t : List Point) (i j np : Nat)
    (h : ¬ (j == items.length || !items.contains i) = true) :
    State.removeLoop items (p :: t) i j np =
      ((State.removeLoop items t (i + 1) (j + 1) np).1, i :: (State.removeLoop items t (i + 1) (j + 1) np).2.1,
       (State.removeLoop items t (i + 1) (j + 1) np).2.2) := by
  rw [State.removeLoop, if_neg h]

theorem removeLoop_flags (items : List Nat) (rows : List Point) : ∀ (i j np : Nat),
    State.removeLoop items rows i j np = State.scanRemoveLoop (rows.zip (idxFlags items rows i j)) i np := by
  induction rows with
  | nil => intro i j np; rfl
  | cons p t ih =>
    intro i j np
    by_cases hc : (j == items.length || !items.contains i) = true
    · rw [removeLoop_keep items p t i j np hc, idxFlags, if_pos hc, List.zip_cons_cons, scan_false, ih]
    · rw [removeLoop_drop items p t i j np hc, idxFlags, if_neg hc, List.zip_cons_cons, scan_true, ih]

/-- as long as `j` is at most the number of members of `items` already passed, it can reach `items.length`
    only when none is left, and the decisions are plain membership of the position in `items` -/
theorem idxFlags_eq_contains (items : List Nat) (rows : List Point) :
    ∀ i j, j ≤ (items.filter (· < i)).length →
    idxFlags items rows i j = (List.range' i rows.length).map items.contains := by
  induction rows with
  | nil => intro i j _; rfl
  | cons p t ih =>
    intro i j hj
    rw [idxFlags, List.length_cons, List.range'_succ, List.map_cons]
    cases hc : items.contains i
    · have hj' : j ≤ (items.filter (· < i + 1)).length := by
        rw [← List.countP_eq_length_filter] at hj ⊢
        exact Nat.le_trans hj (List.countP_mono_left (by intro a _; simp; omega))
      rw [if_pos (by simp), ih (i + 1) j hj']
    · have hlt := filter_lt_succ items i (by simpa using hc)
      have hne : (j == items.length) = false := by
        have := List.length_filter_le (· < i + 1) items
        simpa using (by omega : j ≠ items.length)
      rw [if_neg (by simp [hne]), ih (i + 1) (j + 1) (by omega)]

theorem removeLoop_eq (items : List Nat) (l : List Point) :
    State.removeLoop items l 0 0 0 =
      State.scanRemoveLoop ((l.zipIdx 0).map (fun pi => (pi.1, items.contains pi.2))) 0 0 := by
  rw [removeLoop_flags, idxFlags_eq_contains items l 0 0 (Nat.zero_le _)]
  congr 1
  apply List.ext_getElem (by simp)
  intro k h1 h2
  simp

theorem scanRemoveLoop_kept_sel (l : List Point) (sel : Point → Bool) :
    ∀ (i np : Nat), (State.scanRemoveLoop (l.map (fun p => (p, sel p))) i np).1 = l.filter (fun p => !sel p) := by
  induction l with
  | nil => intro i np; rfl
  | cons p t ih =>
    intro i np
    cases hs : sel p <;> simp [scan_true, scan_false, hs, ih]

/-- row `n` is kept iff it is not selected (positions past the end count as kept): the `keep` of
    `represents_remove_update` for a selection by content -/
def keepOf (l : List Point) (sel : Point → Bool) : Nat → Bool :=
  fun n => if h : n < l.length then !sel l[n] else true

/-- the index path flags a row by membership of its position in the search result, the scan path by the
    selection itself; `f` is whatever is then done with row and flag -/
theorem rows_index {β : Type} (l : List Point) (sel : Point → Bool) (items : List Nat)
    (hmem : ∀ i, i ∈ items ↔ ∃ hi : i < l.length, sel l[i] = true) (f : Point → Bool → β) :
    (l.zipIdx 0).map (fun pi => f pi.1 (items.contains pi.2)) = l.map (fun p => f p (sel p)) := by
  apply List.ext_getElem (by simp)
  intro i h1 h2
  simp only [List.length_map, List.length_zipIdx] at h1
  simp only [List.getElem_map, List.getElem_zipIdx, Nat.zero_add]
  congr 1
  cases hs : sel l[i]
  · have : ¬ i ∈ items := by rw [hmem]; simp [h1, hs]
    simpa using this
  · have : i ∈ items := by rw [hmem]; exact ⟨h1, hs⟩
    simpa using this

/-- the scan path zips the rows with their flags -/
theorem rows_scan (l : List Point) (sel : Point → Bool) :
    l.zip (l.map sel) = l.map (fun p => (p, sel p)) := by
  induction l with
  | nil => rfl
  | cons x t ih => simp [ih]

/-- the common tail of the two branches of `_remove_helper` on what the loop returns, `res` = (kept rows,
    removed positions, renumbering): nothing removed, everything removed, or the kept rows with the index
    renumbered -/
def removeFinish (s : State) (res : List Point × List Nat × List (Nat × Nat)) : State × Nat :=
  if res.2.1.isEmpty then (s, 0)
  else if res.1.isEmpty then (s.resetDatabase, res.2.1.length)
  else ({ s with storage := res.1,
                 index := if s.cfg.autoIndex then (s.index.remove res.2.1).update res.2.2 else s.index.invalidate },
        res.2.1.length)

/-- the last lines of both branches of `State.removeHelper` (Model/DB.lean), copied: one copy for the two branches;
    the `rfl` in `removeHelper_eq` ties it, `removeTail_eq` evaluates it -/
def removeTail (s : State) (res : List Point × List Nat × List (Nat × Nat)) : Except Exc (State × Nat) := do
  let (kept, removed, updated) := res
  if removed.isEmpty then return (s, 0)
  if kept.isEmpty then return (s.resetDatabase, removed.length)
  let idx := if s.cfg.autoIndex then (s.index.remove removed).update updated else s.index.invalidate
  pure ({ s with storage := kept, index := idx }, removed.length)

theorem removeTail_eq (s : State) (res : List Point × List Nat × List (Nat × Nat)) :
    removeTail s res = pure (removeFinish s res) := by
  obtain ⟨k, r, u⟩ := res
  cases r <;> cases k <;> rfl

theorem removeHelper_eq (s : State) (q : Query) (m : Option String) :
    s.removeHelper q m =
      (if s.index.valid && exact q then do
        let items ← s.indexSearch q m
        if items.isEmpty then return (s, 0)
        if items.length == s.index.numItems then return (s.resetDatabase, items.length)
        pure (removeFinish s (State.removeLoop items s.storage 0 0 0))
      else do
        let flags ← s.storage.mapM (State.scanSel q m)
        pure (removeFinish s (State.scanRemoveLoop (s.storage.zip flags) 0 0))) := by
  simp only [← removeTail_eq]
  rfl

theorem scanRemoveLoop_spec (l : List Point) (sel : Point → Bool) :
    (State.scanRemoveLoop (l.map (fun p => (p, sel p))) 0 0).1 = l.filter (fun p => !sel p) ∧
    (State.scanRemoveLoop (l.map (fun p => (p, sel p))) 0 0).2.1.length = (l.filter sel).length ∧
    ∀ idx, Represents idx l →
      Represents ((idx.remove (State.scanRemoveLoop (l.map (fun p => (p, sel p))) 0 0).2.1).update
        (State.scanRemoveLoop (l.map (fun p => (p, sel p))) 0 0).2.2) (l.filter (fun p => !sel p)) := by
  -- in the positional terms of `represents_remove_update`: row `n` is kept iff `keepOf l sel n`
  have hfl : l.map (fun p => (p, sel p)) = (l.zipIdx 0).map (fun pn => (pn.1, !keepOf l sel pn.2)) := by
    apply List.ext_getElem (by simp)
    intro k hk _
    simp only [List.length_map] at hk
    simp [keepOf, hk]
  have h0 := scanRemoveLoop_kept_sel l sel 0 0
  have h3 := scanRemoveLoop_length (l.map (fun p => (p, sel p))) 0 0
  rw [hfl] at h0 h3 ⊢
  have h1 := scanRemoveLoop_kept (keepOf l sel) l 0 0
  have h2 := scanRemoveLoop_removed (keepOf l sel) l 0 0
  have h4 := scanRemoveLoop_updated (keepOf l sel) l 0 0
  simp only [List.length_map, List.length_zipIdx] at h3
  refine ⟨h0, ?_, fun idx hidx => ?_⟩
  · have := length_filter_add_not sel l
    rw [h0] at h3
    omega
  · rw [← h0, h1]
    refine represents_remove_update hidx (keepOf l sel) _ _ (fun i hi => ?_) (fun i hi hkp => ?_) (h1 ▸ h3)
    · rw [h2]
      cases hkp : keepOf l sel i
      · simp [hkp, hi]
      · simp [hkp]
    · rw [h4 i (Nat.zero_le i) (by omega) hkp]
      omega

/-- what `_update_helper`'s rewrite loop does with one (row, selected) pair: the row to write and whether
    its content changed -/
def updRow (norm : Point → Point) (u : Upd) (pb : Point × Bool) : Except Err (Point × Nat) :=
  if pb.2 then do
    let p' ← upd u pb.1
    pure (if p'.eqv pb.1 then (pb.1, 0) else (norm p', 1))
  else pure (pb.1, 0)

theorem updateLoop_cons (norm : Point → Point) (u : Upd) (pb : Point × Bool) (t : List (Point × Bool)) :
    State.updateLoop norm u (pb :: t) = (do
      let r ← updRow norm u pb
      let lc ← State.updateLoop norm u t
      pure (r.1 :: lc.1, lc.2 + r.2)) := by
  obtain ⟨p, b⟩ := pb
  cases b
  · rfl
  · simp only [State.updateLoop, updRow, if_true, bind, Except.bind]
    cases upd u p with
    | error e => rfl
    | ok p' =>
      cases State.updateLoop norm u t with
      | error e => rfl
      | ok lc => cases he : p'.eqv p <;> simp only [he, if_true, Bool.false_eq_true, if_false] <;> rfl

end Writes
end TinyFlux.Model
