import TinyFlux.Lemmas.Represents
/-!
# What a represented index answers to `search`

For a query that the index answers exactly (`exact q`: no `~` directly over a field leaf), `Index.search`
returns each position whose point satisfies `sem q` once, and does not raise: the measurement and tag leaves
from `MapRep.mem_hits` (the entries whose key passes are the rows that carry such a key), the field leaf from the
posting list of its key (`Represents.fields`, `mem_postFrom0`), the time leaf from `TimeIndex.lean`, the connectives
by set algebra on duplicate-free lists (`Selects.inter / union / compl`).
-/
namespace TinyFlux.Model
open TinyFlux.Spec

/-! Once `callOn_eq` is used the loops are pure: what each leaf search evaluates to. -/

theorem searchMeas_eq (i : Index) (l : Leaf) :
    i.searchMeas l = .ok (dedup (i.meas.map (fun kv => if l.eval (.str kv.1) then kv.2.map (·.1) else [])).flatten) := by
  unfold Index.searchMeas
  rw [mapM_ok (g := fun kv => if l.eval (.str kv.1) then kv.2.map (·.1) else [])]
  · rfl
  · intro kv _
    rw [callOn_eq l (.str kv.1)]
    cases l.eval (.str kv.1) <;> rfl

theorem searchTags_eq (i : Index) (k : String) (l : Leaf) :
    i.searchTags k l = .ok (dedup (i.tags.map
      (fun kv => if kv.1.1 == k && l.eval (ofOptStr kv.1.2) then kv.2.map (·.1) else [])).flatten) := by
  unfold Index.searchTags
  rw [mapM_ok (g := fun kv => if kv.1.1 == k && l.eval (ofOptStr kv.1.2) then kv.2.map (·.1) else [])]
  · rfl
  · intro kv _
    rw [callOn_eq l (ofOptStr kv.1.2)]
    cases kv.1.1 == k <;> cases l.eval (ofOptStr kv.1.2) <;> rfl

theorem searchFields_eq (i : Index) (k : String) (l : Leaf) :
    i.searchFields k l = .ok (dedup ((i.fields.posting k).filterMap
      (fun ip => if l.eval (ofOptNum ip.2) then some ip.1 else none))) := by
  unfold Index.searchFields
  rw [filterMapM_ok (g := fun (ip : Nat × Option Num) => if l.eval (ofOptNum ip.2) then some ip.1 else none)]
  · rfl
  · intro ip _
    rw [callOn_eq l (ofOptNum ip.2)]
    cases l.eval (ofOptNum ip.2) <;> rfl

theorem searchMeas_spec (idx : Index) (l : List Point) (h : Represents idx l) (lf : Leaf) :
    ∃ r, idx.searchMeas lf = .ok r ∧ Selects r l (sem (.meas lf)) := by
  refine ⟨_, searchMeas_eq idx lf, nodup_dedup _, fun i => ?_⟩
  rw [mem_dedup, h.mapsRep.meas.mem_hits (fun k => lf.eval (.str k))]
  simp only [sem, carryMeas_isSome]
  exact ⟨fun ⟨k, hf, hi, e⟩ => ⟨hi, e ▸ hf⟩, fun ⟨hi, hf⟩ => ⟨_, hf, hi, rfl⟩⟩

theorem searchTags_spec (idx : Index) (l : List Point) (h : Represents idx l)
    (k : String) (lf : Leaf) :
    ∃ r, idx.searchTags k lf = .ok r ∧ Selects r l (sem (.tag k lf)) := by
  refine ⟨_, searchTags_eq idx k lf, nodup_dedup _, fun i => ?_⟩
  rw [mem_dedup, h.mapsRep.tags.mem_hits (fun kv => kv.1 == k && lf.eval (ofOptStr kv.2))]
  simp only [sem, carryTag_isSome, Bool.and_eq_true, beq_iff_eq]
  constructor
  · rintro ⟨⟨k', v⟩, ⟨rfl, hf⟩, hi, hv⟩
    exact ⟨hi, by rw [hv]; exact hf⟩
  · rintro ⟨hi, hf⟩
    cases hv : l[i].tags.lookup k with
    | none => simp [hv] at hf
    | some v => exact ⟨(k, v), ⟨rfl, by simpa only [hv] using hf⟩, hi, hv⟩

theorem searchFields_spec (idx : Index) (l : List Point) (h : Represents idx l)
    (k : String) (lf : Leaf) :
    ∃ r, idx.searchFields k lf = .ok r ∧ Selects r l (sem (.field k lf)) := by
  refine ⟨_, searchFields_eq idx k lf, nodup_dedup _, fun i => ?_⟩
  rw [mem_dedup, h.fields]
  simp only [List.mem_filterMap, Prod.exists, sem, mem_postFrom0, carryField]
  constructor
  · rintro ⟨j, b, ⟨hj, hc⟩, hi⟩
    by_cases hb : lf.eval (ofOptNum b) = true
    · rw [if_pos hb, Option.some.injEq] at hi
      subst hi
      exact ⟨hj, by rw [hc]; exact hb⟩
    · rw [if_neg hb] at hi
      cases hi
  · rintro ⟨hi, hf⟩
    cases hv : l[i].fields.lookup k with
    | none => simp [hv] at hf
    | some v =>
      have hf' : lf.eval (ofOptNum v) = true := by simpa only [hv] using hf
      exact ⟨i, v, ⟨hi, hv⟩, by rw [if_pos hf']⟩

theorem search_not (idx : Index) (q : Query) (hq : ∀ k lf, q ≠ .field k lf) :
    idx.search (.not q) = (do let a ← idx.search q; pure (Index.compl idx.numItems a)) := by
  cases q <;> first | rfl | (exfalso; exact hq _ _ rfl)

theorem exact_not (q : Query) (hq : ∀ k lf, q ≠ .field k lf) : exact (.not q) = exact q := by
  cases q <;> first | rfl | (exfalso; exact hq _ _ rfl)

theorem search_selects (idx : Index) (l : List Point) (h : Represents idx l) (q : Query) (hq : exact q = true) :
    ∃ r, idx.search q = .ok r ∧ Selects r l (sem q) := by
  induction q with
  | time lf => exact searchTs_spec idx l h.timeRep lf
  | meas lf => exact searchMeas_spec idx l h lf
  | tag k lf => exact searchTags_spec idx l h k lf
  | field k lf => exact searchFields_spec idx l h k lf
  | noop => exact ⟨_, rfl, by rw [h.num]; exact selects_range l⟩
  | not q ih =>
    by_cases hf : ∃ k lf, q = .field k lf
    · obtain ⟨k, lf, rfl⟩ := hf
      cases hq
    · have hf' : ∀ k lf, q ≠ .field k lf := fun k lf e => hf ⟨k, lf, e⟩
      rw [exact_not q hf'] at hq
      obtain ⟨r, h1, hr⟩ := ih hq
      refine ⟨Index.compl idx.numItems r, ?_, by rw [h.num]; exact Selects.compl hr⟩
      rw [search_not idx q hf', h1]; rfl
  | and q r ih1 ih2 =>
    simp only [exact, Bool.and_eq_true] at hq
    obtain ⟨a, h1, ha⟩ := ih1 hq.1
    obtain ⟨b, g1, hb⟩ := ih2 hq.2
    exact ⟨Index.inter a b, by rw [Index.search, h1, g1]; rfl, Selects.inter ha hb⟩
  | or q r ih1 ih2 =>
    simp only [exact, Bool.and_eq_true] at hq
    obtain ⟨a, h1, ha⟩ := ih1 hq.1
    obtain ⟨b, g1, hb⟩ := ih2 hq.2
    exact ⟨Index.union a b, by rw [Index.search, h1, g1]; rfl, Selects.union ha hb⟩

theorem search_exact (idx : Index) (l : List Point) (h : Represents idx l) (hwf : ∀ p ∈ l, WFPoint p)
    (q : Query) (hq : exact q = true) :
    ∃ r, idx.search q = .ok r ∧ r.Nodup ∧ ∀ i, i ∈ r ↔ ∃ hi : i < l.length, sem q l[i] = true := by
  have _ := hwf  -- not needed: representation alone determines the answer
  obtain ⟨r, hr, hsel⟩ := search_selects idx l h q hq
  exact ⟨r, hr, hsel.nodup, hsel.mem⟩

end TinyFlux.Model
