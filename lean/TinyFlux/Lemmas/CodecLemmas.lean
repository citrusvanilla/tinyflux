import TinyFlux.Model.Codec
import TinyFlux.Lemmas.Dict
/-! For C05 (CSV row codec round trip). The generated strings are turned into character lists once (`noneS_eq`,
    `tagPre_eq`, `fieldPre_eq`); the sniffers and the two loops get one equation per shape of input, and everything
    after that rewrites with those and never unfolds the decoder again. -/
namespace TinyFlux.Lemmas.CodecLemmas
open TinyFlux.Spec TinyFlux.Model.Codec TinyFlux.Generated

theorem noneS_eq : noneS = ['_', 'n', 'o', 'n', 'e'] := by
  simp [noneS, noneStr]

theorem tagPre_eq (c : Bool) : tagPre c = if c then ['t', '_'] else ['_', 't', 'a', 'g', '_'] := by
  cases c <;> simp [tagPre, defaultTagPrefix, compactTagPrefix]

theorem fieldPre_eq (c : Bool) :
    fieldPre c = if c then ['f', '_'] else ['_', 'f', 'i', 'e', 'l', 'd', '_'] := by
  cases c <;> simp [fieldPre, defaultFieldPrefix, compactFieldPrefix]

theorem sniffTag_cons (a b : Char) (r : Str) :
    sniffTag (a :: b :: r) =
      if b = 't' then some (some (tagPre false).length)
      else if a = 't' then some (some (tagPre true).length) else some none := rfl

theorem sniffField_cons (a b : Char) (r : Str) :
    sniffField (a :: b :: r) =
      if b = 'f' then some (fieldPre false).length else some (fieldPre true).length := rfl

theorem sniff_tag_key (c : Bool) (k : Str) :
    sniffTag (tagPre c ++ k) = some (some (tagPre c).length) := by
  cases c <;> simp [tagPre_eq, sniffTag_cons]

theorem sniff_field_key_not_tag (c : Bool) (k : Str) : sniffTag (fieldPre c ++ k) = some none := by
  cases c <;> simp [fieldPre_eq, sniffTag_cons]

theorem sniff_field_key (c : Bool) (k : Str) :
    sniffField (fieldPre c ++ k) = some (fieldPre c).length := by
  cases c <;> simp [fieldPre_eq, sniffField_cons]

theorem parseTags_tagKey (c : Bool) (k vc : Str) (rest : List Str) :
    parseTags ((tagPre c ++ k) :: vc :: rest) =
      (parseTags rest).map fun r => ((k, if vc = noneS then none else some vc) :: r.1, r.2) := by
  rw [parseTags, sniff_tag_key]
  cases parseTags rest <;> simp

theorem parseTags_fieldKey (c : Bool) (k vc : Str) (rest : List Str) :
    parseTags ((fieldPre c ++ k) :: vc :: rest) = some ([], (fieldPre c ++ k) :: vc :: rest) := by
  rw [parseTags, sniff_field_key_not_tag]

theorem parseFields_fieldKey (fc : FieldCodec) (c : Bool) (k vc : Str) (rest : List Str) :
    parseFields fc ((fieldPre c ++ k) :: vc :: rest) =
      (decodeField fc vc).bind fun v => (parseFields fc rest).map fun fs => (k, v) :: fs := by
  rw [parseFields, sniff_field_key]
  cases decodeField fc vc <;> cases parseFields fc rest <;> simp

def tagValCell : Option String → Str
  | none => noneS
  | some v => v.toList

def fieldValCell (fc : FieldCodec) : Option Num → Str
  | none => noneS
  | some n => fc.repr n

def tagCells (c : Bool) (tags : List (String × Option String)) : List Str :=
  tags.flatMap (fun kv => [tagPre c ++ kv.1.toList, tagValCell kv.2])

def fieldCells (fc : FieldCodec) (c : Bool) (fields : List (String × Option Num)) : List Str :=
  fields.flatMap (fun kv => [fieldPre c ++ kv.1.toList, fieldValCell fc kv.2])

theorem serialize_eq (fc : FieldCodec) (tc : TimeCodec) (c : Bool) (p : Point) :
    serialize fc tc c p =
      tc.iso p.time :: (if measEmptyAsSentinel && p.meas.isEmpty then noneS else p.meas.toList) ::
        (tagCells c p.tags ++ fieldCells fc c p.fields) := rfl

/-- what a tag value comes back as: the sentinel text is read as `None` -/
def scrub (v : Option String) : Option String := if v = some noneStr then none else v

/-- the point a written row reads back as -/
def scrubTags (p : Point) : Point := { p with tags := p.tags.map fun kv => (kv.1, scrub kv.2) }

theorem tagValCell_decode (v : Option String) :
    (if tagValCell v = noneS then none else some (tagValCell v)).map String.ofList = scrub v := by
  cases v with
  | none => simp [tagValCell, scrub]  -- not `rfl`: that decides `noneS = noneS` by evaluating the literal
  | some s =>
    have : s.toList = noneS ↔ s = noneStr := String.toList_inj
    by_cases h : s = noneStr
    · simp [tagValCell, scrub, h, noneS]
    · simp [tagValCell, scrub, this, h]

theorem parseTags_tagCells (c : Bool) (tags : List (String × Option String)) (fcs : List Str)
    (hf : parseTags fcs = some ([], fcs)) :
    parseTags (tagCells c tags ++ fcs) = some (tags.map (fun kv =>
      (kv.1.toList, if tagValCell kv.2 = noneS then none else some (tagValCell kv.2))), fcs) := by
  induction tags with
  | nil => exact hf
  | cons kv t ih =>
    have e : tagCells c (kv :: t) ++ fcs =
        (tagPre c ++ kv.1.toList) :: tagValCell kv.2 :: (tagCells c t ++ fcs) := rfl
    rw [e, parseTags_tagKey, ih]
    rfl

theorem parseTags_fieldCells (fc : FieldCodec) (c : Bool) (fields : List (String × Option Num)) :
    parseTags (fieldCells fc c fields) = some ([], fieldCells fc c fields) := by
  cases fields with
  | nil => rfl
  | cons kv t => exact parseTags_fieldKey c _ _ _

/-- a cell that is not empty and not an integer literal (digits, or `-` and digits: those `decodeField` reads
    itself) is read by the codec's `parse` -/
theorem decodeField_of (fc : FieldCodec) (v : Str) (r : Option Num) (h1 : v ≠ [])
    (h2 : isDigits v = false) (h3 : ¬ (∃ t, v = '-' :: t ∧ isDigits t = true))
    (hp : fc.parse v = r) : decodeField fc v = some r := by
  cases v with
  | nil => exact absurd rfl h1
  | cons c t =>
    have h3' : ¬ (c = '-' ∧ isDigits t = true) := fun ⟨hc, hd⟩ => h3 ⟨t, by rw [hc], hd⟩
    cases r <;> simp [decodeField, h2, hp, h3']

theorem decodeField_fieldValCell (fc : FieldCodec) (hs : SentinelNotNumber fc) (v : Option Num)
    (hv : ∀ n, v = some n →
      fc.parse (fc.repr n) = some n ∧ fc.repr n ≠ [] ∧ isDigits (fc.repr n) = false ∧
      ¬ (∃ t, fc.repr n = '-' :: t ∧ isDigits t = true)) :
    decodeField fc (fieldValCell fc v) = some v := by
  cases v with
  | none => refine decodeField_of fc noneS _ ?_ ?_ ?_ hs <;> simp [noneS_eq, isDigits]
  | some n =>
    obtain ⟨a, b, c, d⟩ := hv n rfl
    exact decodeField_of fc _ _ b c d a

theorem parseFields_fieldCells (fc : FieldCodec) (c : Bool) (fields : List (String × Option Num))
    (hv : ∀ kv ∈ fields, decodeField fc (fieldValCell fc kv.2) = some kv.2) :
    parseFields fc (fieldCells fc c fields) = some (fields.map (fun kv => (kv.1.toList, kv.2))) := by
  induction fields with
  | nil => rfl
  | cons kv t ih =>
    have e : fieldCells fc c (kv :: t) =
        (fieldPre c ++ kv.1.toList) :: fieldValCell fc kv.2 :: fieldCells fc c t := rfl
    rw [e, parseFields_fieldKey, hv kv List.mem_cons_self, ih (fun kv h => hv kv (List.mem_cons_of_mem _ h))]
    rfl

theorem toDict_of_nodup {V : Type} (l : List (String × V)) (h : (l.map (·.1)).Nodup) :
    toDict (l.map (fun kv => (kv.1.toList, kv.2))) = l := by
  have := dictUpdate_of_nodup [] l h
  simpa [toDict, dictUpdate, List.foldl_map] using this

/-- The hypotheses are `Codable` without `tagVals`, and no law on `fc` beyond `hfv` (from `Codable.fieldVals` by
    `decodeField_fieldValCell`, which is where `SentinelNotNumber` enters). -/
theorem deserialize_serialize_scrub (fc : FieldCodec) (tc : TimeCodec) (c : Bool) (p : Point)
    (ht : tc.fromIso (tc.iso p.time) = some p.time)
    (hm : measEmptyAsSentinel = true → p.meas ≠ "") (htk : (p.tags.map (·.1)).Nodup)
    (hfk : (p.fields.map (·.1)).Nodup)
    (hfv : ∀ kv ∈ p.fields, decodeField fc (fieldValCell fc kv.2) = some kv.2) :
    deserialize fc tc (serialize fc tc c p) = some (scrubTags p) := by
  have hm' : (measEmptyAsSentinel && p.meas.isEmpty) = false := by
    cases hg : measEmptyAsSentinel
    · rfl
    · cases h : p.meas.isEmpty
      · rfl
      · exact absurd (String.isEmpty_iff.mp h) (hm hg)
  have htags : (p.tags.map fun kv => (kv.1.toList,
        if tagValCell kv.2 = noneS then none else some (tagValCell kv.2))).map
        (fun kv => (kv.1, kv.2.map String.ofList))
      = (p.tags.map fun kv => (kv.1, scrub kv.2)).map fun kv => (kv.1.toList, kv.2) := by
    simp only [List.map_map, Function.comp_def, tagValCell_decode]
  have htk' : ((p.tags.map fun kv => (kv.1, scrub kv.2)).map (·.1)).Nodup := by
    simpa only [List.map_map, Function.comp_def] using htk
  rw [serialize_eq, hm']
  simp only [deserialize, Bool.false_eq_true, if_false, ht,
    parseTags_tagCells c p.tags _ (parseTags_fieldCells fc c p.fields),
    parseFields_fieldCells fc c p.fields hfv, htags, toDict_of_nodup _ htk',
    toDict_of_nodup p.fields hfk, String.ofList_toList, scrubTags]

theorem scrub_eq_self {v : Option String} : scrub v = v ↔ v ≠ some noneStr := by
  unfold scrub
  split <;> simp_all

theorem scrubTags_eq_self (p : Point) : scrubTags p = p ↔ ∀ kv ∈ p.tags, kv.2 ≠ some noneStr := by
  have h : scrubTags p = p ↔ p.tags.map (fun kv => (kv.1, scrub kv.2)) = p.tags.map id := by
    rw [List.map_id]
    exact ⟨congrArg Point.tags, fun h => by rw [scrubTags, h]⟩
  rw [h, List.map_inj_left]
  exact forall₂_congr fun kv _ => by simp [Prod.ext_iff, scrub_eq_self]

end TinyFlux.Lemmas.CodecLemmas
