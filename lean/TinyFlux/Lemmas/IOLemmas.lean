import TinyFlux.Model.IO
/-!
# Lemmas about the I/O protocol model (`Model/IO.lean`), shared by C04, C12, C13, C15, C16

The crash and fault statements all speak of the states after the prefixes of a step list (what a crash, or
a failing call, can leave). `Holds I fs L` names that: `I` is true of every such state. It splits along `::`
and `++`, so a statement about a step list is proved piece by piece: a piece whose steps each preserve `I`
(`holds_of_steps`), a short concrete piece by computing its states (`holds_cons`), a loop body by body
(`holds_flatMap`).
-/
namespace TinyFlux.Model.IO

variable {R : Type}

@[simp] theorem run_nil (fs : FS R) : run fs [] = fs := rfl

@[simp] theorem run_cons (fs : FS R) (s : Step R) (l : List (Step R)) :
    run fs (s :: l) = run (exec fs s) l := rfl

theorem run_append (fs : FS R) (a b : List (Step R)) : run fs (a ++ b) = run (run fs a) b := by
  simp [run, List.foldl_append]

theorem quiet_iff {fs : FS R} : Quiet fs ↔ fs.pendP = [] ∧ fs.temp = none ∧ fs.pendT = [] :=
  ⟨fun h => ⟨h.noPend, h.noTemp, h.noPendT⟩, fun h => ⟨h.1, h.2.1, h.2.2⟩⟩

/-! ## what holds after every prefix of a step list -/

def Holds (I : FS R → Prop) (fs : FS R) (L : List (Step R)) : Prop := ∀ k, I (run fs (L.take k))

theorem holds_nil {I : FS R → Prop} {fs : FS R} : Holds I fs [] ↔ I fs := by
  simp [Holds]

theorem holds_cons {I : FS R → Prop} {fs : FS R} {s : Step R} {l : List (Step R)} :
    Holds I fs (s :: l) ↔ I fs ∧ Holds I (exec fs s) l := by
  constructor
  · intro h
    exact ⟨h 0, fun k => h (k + 1)⟩
  · rintro ⟨h0, h⟩ k
    cases k with
    | zero => exact h0
    | succ k => exact h k

theorem Holds.last {I : FS R → Prop} {fs : FS R} {L : List (Step R)} (h : Holds I fs L) : I (run fs L) := by
  simpa using h L.length

theorem Holds.mono {I J : FS R → Prop} {fs : FS R} {L : List (Step R)} (h : Holds I fs L)
    (hIJ : ∀ x, I x → J x) : Holds J fs L := fun k => hIJ _ (h k)

theorem holds_append {I : FS R → Prop} {fs : FS R} {A B : List (Step R)} :
    Holds I fs (A ++ B) ↔ Holds I fs A ∧ Holds I (run fs A) B := by
  induction A generalizing fs with
  | nil => exact ⟨fun h => ⟨holds_nil.mpr (h 0), h⟩, fun h => h.2⟩
  | cons s t ih => simp only [List.cons_append, holds_cons, ih, run_cons, and_assoc]

theorem holds_of_steps {I : FS R → Prop} {L : List (Step R)}
    (hL : ∀ s ∈ L, ∀ x, I x → I (exec x s)) {fs : FS R} (h : I fs) : Holds I fs L := by
  induction L generalizing fs with
  | nil => exact holds_nil.mpr h
  | cons s t ih =>
    exact holds_cons.mpr ⟨h, ih (fun x hx => hL x (List.mem_cons_of_mem _ hx)) (hL s List.mem_cons_self fs h)⟩

/-- A loop, body by body. `J d` is the invariant between two bodies when the items `d` are done, `K d`
    what is known inside a body: there the state is as if `d` were done, or `d` and the current item. -/
theorem holds_flatMap {α : Type} (body : α → List (Step R)) (J K : List α → FS R → Prop)
    (hJK : ∀ d x, J d x → K d x)
    (hbody : ∀ d a x, J d x →
      Holds (fun y => K d y ∨ K (d ++ [a]) y) x (body a) ∧ J (d ++ [a]) (run x (body a)))
    (d rest : List α) (fs : FS R) (h : J d fs) :
    Holds (fun y => ∃ j, j ≤ rest.length ∧ K (d ++ rest.take j) y) fs (rest.flatMap body) ∧
      J (d ++ rest) (run fs (rest.flatMap body)) := by
  induction rest generalizing d fs with
  | nil => exact ⟨holds_nil.mpr ⟨0, Nat.le_refl _, by simpa using hJK d fs h⟩, by simpa using h⟩
  | cons a t ih =>
    obtain ⟨b1, b2⟩ := hbody d a fs h
    obtain ⟨t1, t2⟩ := ih (d ++ [a]) _ b2
    rw [List.flatMap_cons, run_append, holds_append]
    refine ⟨⟨b1.mono ?_, t1.mono ?_⟩, by simpa using t2⟩
    · rintro y (hy | hy)
      · exact ⟨0, Nat.zero_le _, by simpa using hy⟩
      · exact ⟨1, by simp, by simpa using hy⟩
    · rintro y ⟨j, hj, hy⟩
      exact ⟨j + 1, by simpa using hj, by simpa using hy⟩

/-! ## steps that cannot change what the primary file holds -/

/-- steps that leave `primary` alone as long as nothing is buffered in the primary handle: the complement of
    `Step.mutatesPrimary` (Model/IO.lean) -/
def Step.safe : Step R → Bool
  | .pWrite _ | .pTruncate | .replace => false
  | _ => true

theorem Step.not_mutates_of_safe {s : Step R} (h : s.safe = true) : s.mutatesPrimary = false := by
  cases s <;> simp [Step.safe] at h <;> rfl

def Settled (old : List R) (fs : FS R) : Prop := fs.primary = old ∧ fs.pendP = []

/-- what a crash in the middle of an atomic step list may leave -/
abbrev OldOrNew (old new : List R) (y : FS R) : Prop := (y.primary = old ∨ y.primary = new) ∧ y.pendP = []

theorem OldOrNew.of_old {old new : List R} (y : FS R) (h : Settled old y) : OldOrNew old new y :=
  ⟨Or.inl h.1, h.2⟩

theorem OldOrNew.of_new {old new : List R} (y : FS R) (h : Settled new y) : OldOrNew old new y :=
  ⟨Or.inr h.1, h.2⟩

theorem exec_safe {old : List R} (s : Step R) (hs : s.safe = true) (fs : FS R) (h : Settled old fs) :
    Settled old (exec fs s) := by
  obtain ⟨h1, h2⟩ := h
  cases s <;> simp [Step.safe] at hs <;> simp [Settled, exec, h1, h2]

theorem holds_safe {old : List R} {L : List (Step R)} (hL : L.all Step.safe = true) {fs : FS R}
    (h : Settled old fs) : Holds (Settled old) fs L :=
  holds_of_steps (fun s hs => exec_safe s (List.all_eq_true.mp hL s hs)) h

/-- the `finally` clause of `temp_storage_op` -/
theorem run_cleanup (fs : FS R) (L : List (Step R)) :
    (run fs (L ++ [.tClose, .tUnlink])).primary = (run fs L).primary ∧
    (run fs (L ++ [.tClose, .tUnlink])).pendP = (run fs L).pendP ∧
    (run fs (L ++ [.tClose, .tUnlink])).temp = none ∧ (run fs (L ++ [.tClose, .tUnlink])).pendT = [] := by
  rw [run_append]
  simp [exec]

/-! ## the step lists of the storage operations: rewrite, reset, append -/

theorem stageRow_safe (flush : Bool) (r : R) : (stageRow flush r).all Step.safe = true := by
  cases flush <;> rfl

theorem streamSteps_safe (flush : Bool) (rows : List (Option R)) :
    (streamSteps flush rows).all Step.safe = true := by
  induction rows with
  | nil => rfl
  | cons o t ih =>
    cases o with
    | none => exact ih
    | some r =>
      simp only [streamSteps, List.all_cons, List.all_append, stageRow_safe, ih]
      rfl

def tempAll (fs : FS R) : Option (List R) := fs.temp.map (· ++ fs.pendT)

theorem tempAll_stageRow (fs : FS R) (flush : Bool) (r : R) :
    tempAll (run fs (stageRow flush r)) = (tempAll fs).map (· ++ [r]) := by
  cases ht : fs.temp <;> cases flush <;> simp [stageRow, exec, tempAll, ht]

theorem tempAll_stream (fs : FS R) (flush : Bool) (rows : List (Option R)) :
    tempAll (run fs (streamSteps flush rows)) = (tempAll fs).map (· ++ newRows rows) := by
  induction rows generalizing fs with
  | nil => cases ht : fs.temp <;> simp [streamSteps, exec, tempAll, newRows, ht]
  | cons o t ih =>
    have e : exec fs Step.pRead = fs := rfl
    cases o with
    | none => simp only [streamSteps, run_cons, ih, e, newRows, List.filterMap_cons, id]
    | some r =>
      simp only [streamSteps, run_cons, run_append, ih, tempAll_stageRow, e]
      cases tempAll fs <;> simp [newRows]

theorem staging_safe (flush : Bool) (rows : List (Option R)) :
    ([.tCreate, .pSeek0] ++ streamSteps flush rows : List (Step R)).all Step.safe = true :=
  streamSteps_safe flush rows

/-- `fs.primary ++ fs.pendP`: the `seek(0)` flushes the primary handle -/
theorem run_staging (fs : FS R) (flush : Bool) (rows : List (Option R)) :
    let fs1 := run fs ([.tCreate, .pSeek0] ++ streamSteps flush rows)
    Settled (fs.primary ++ fs.pendP) fs1 ∧ ∃ t, fs1.temp = some t ∧ t ++ fs1.pendT = newRows rows := by
  intro fs1
  have e : fs1 = run (run fs [.tCreate, .pSeek0]) (streamSteps flush rows) := run_append ..
  have hs : Settled (fs.primary ++ fs.pendP) fs1 :=
    e ▸ (holds_safe (streamSteps_safe flush rows) (by simp [Settled, exec])).last
  have ht : tempAll fs1 = some (newRows rows) := by
    rw [e, tempAll_stream]; simp [exec, tempAll]
  refine ⟨hs, ?_⟩
  unfold tempAll at ht
  cases h : fs1.temp with
  | none => simp [h] at ht
  | some t => exact ⟨t, rfl, by simpa [h] using ht⟩

theorem rewriteSteps_eq (flush : Bool) (rows : List (Option R)) (rebuild : Bool) :
    rewriteSteps flush rows rebuild =
      ([.tCreate, .pSeek0] ++ streamSteps flush rows) ++
        (swapSteps ++ ((if rebuild then scanSteps else []) ++ [.tClose])) := by
  simp [rewriteSteps, List.append_assoc]

theorem swap_holds (fs1 : FS R) (old new t : List R) (hold : Settled old fs1)
    (htemp : fs1.temp = some t) (hnew : t ++ fs1.pendT = new) :
    Holds (OldOrNew old new) fs1 swapSteps ∧
    Settled new (run fs1 swapSteps) ∧ (run fs1 swapSteps).temp = none ∧ (run fs1 swapSteps).pendT = [] ∧
    (run fs1 swapSteps).pOpen = true := by
  -- `tFlush, tFsync, pClose` leave the primary on `old` (the flush completes the temp file to `new`); `replace` is the
  -- one step that switches it to `new`; `pOpen` keeps it
  have hpre : Holds (Settled old) fs1 [.tFlush, .tFsync, .pClose] := holds_safe rfl hold
  have hpost : Holds (Settled new) (exec (run fs1 [.tFlush, .tFsync, .pClose]) .replace) [.pOpen] := by
    simp [holds_cons, holds_nil, Settled, exec, htemp, hnew]
  refine ⟨?_, ?_⟩
  · show Holds _ fs1 ([.tFlush, .tFsync, .pClose] ++ (.replace :: [.pOpen]))
    exact holds_append.mpr ⟨hpre.mono OldOrNew.of_old,
      holds_cons.mpr ⟨OldOrNew.of_old _ hpre.last, hpost.mono OldOrNew.of_new⟩⟩
  · obtain ⟨h1, h2⟩ := hold
    simp [swapSteps, Settled, exec, h1, h2, htemp, hnew]

theorem tail_after_swap_safe (rebuild : Bool) :
    ((if rebuild then scanSteps else []) ++ [.tClose] : List (Step R)).all Step.safe = true := by
  cases rebuild <;> rfl

theorem rewrite_full (fs : FS R) (flush : Bool) (rows : List (Option R)) (rebuild : Bool) :
    (run fs (rewriteSteps flush rows rebuild)).primary = newRows rows ∧
    Quiet (run fs (rewriteSteps flush rows rebuild)) ∧
    (run fs (rewriteSteps flush rows rebuild)).pOpen = true := by
  obtain ⟨h1, t, h3, h4⟩ := run_staging fs flush rows
  obtain ⟨_, ⟨a, b⟩, c, d, e⟩ := swap_holds _ _ _ t h1 h3 h4
  rw [rewriteSteps_eq, run_append, run_append]
  generalize run (run fs ([.tCreate, .pSeek0] ++ streamSteps flush rows)) swapSteps = fs2 at a b c d e ⊢
  cases rebuild <;> simp [quiet_iff, scanSteps, exec, a, b, c, d, e]

theorem scannedPart_safe (flush : Bool) (rows : List (Option R)) (scanned : Bool) :
    ([.tCreate] ++ (if scanned then .pSeek0 :: streamSteps flush rows else []) : List (Step R)).all
      Step.safe = true := by
  cases scanned
  · rfl
  · exact streamSteps_safe flush rows

theorem cleanup_safe : ([.tClose, .tUnlink] : List (Step R)).all Step.safe = true := rfl

theorem safe_append_cleanup {L : List (Step R)} (hL : L.all Step.safe = true) :
    (L ++ [Step.tClose, Step.tUnlink]).all Step.safe = true := by
  rw [List.all_append, hL, cleanup_safe]
  rfl

theorem noopRewriteSteps_safe (flush : Bool) (rows : List (Option R)) (scanned : Bool) :
    (noopRewriteSteps flush rows scanned).all Step.safe = true :=
  safe_append_cleanup (scannedPart_safe flush rows scanned)

theorem reset_holds {old : List R} (fs : FS R) (h : Settled old fs) :
    Holds (OldOrNew old []) fs resetSteps ∧
    Settled [] (run fs resetSteps) ∧ (run fs resetSteps).temp = fs.temp ∧
    (run fs resetSteps).pendT = fs.pendT := by
  -- `old` until `pTruncate`, `[]` from it on
  simp [resetSteps, holds_cons, holds_nil, OldOrNew, Settled, exec, h.1, h.2]

theorem resetInTempSteps_eq (flush : Bool) (rows : List (Option R)) (scanned : Bool) :
    resetInTempSteps flush rows scanned =
      ([.tCreate] ++ (if scanned then .pSeek0 :: streamSteps flush rows else [])) ++
        (resetSteps ++ [.tClose, .tUnlink]) := by
  simp [resetInTempSteps, List.append_assoc]

theorem resetInTemp_full (fs : FS R) (flush : Bool) (rows : List (Option R)) (scanned : Bool) :
    (run fs (resetInTempSteps flush rows scanned)).primary = [] ∧
    Quiet (run fs (resetInTempSteps flush rows scanned)) := by
  rw [resetInTempSteps_eq, run_append]
  simp [quiet_iff, resetSteps, exec]

/-- `CSVStorage.append([row])` for one row: the body of `appendSteps` -/
def appendRow (flush : Bool) (r : R) : List (Step R) :=
  if flush then [.pSeekEnd, .pWrite r, .pFlush, .pFsync, .pTruncate] else [.pSeekEnd, .pWrite r]

theorem appendSteps_eq (flush : Bool) (rows : List R) :
    appendSteps flush rows = rows.flatMap (appendRow flush) := rfl

@[simp] theorem appendSteps_nil (flush : Bool) : appendSteps flush ([] : List R) = [] := rfl

theorem append_afterClose (fs : FS R) (flush : Bool) (rows : List R) :
    Holds (fun y => ∃ j, j ≤ rows.length ∧ afterClose y = afterClose fs ++ rows.take j) fs
      (appendSteps flush rows) ∧
    afterClose (run fs (appendSteps flush rows)) = afterClose fs ++ rows := by
  have := holds_flatMap (appendRow flush) (fun d y => afterClose y = afterClose fs ++ d)
    (fun d y => afterClose y = afterClose fs ++ d) (fun _ _ h => h) ?_ [] rows fs (by simp)
  · simpa [appendSteps_eq] using this
  · intro d a x h
    -- once written, the row is in the handle's buffer or in the file: part of `afterClose` either way
    simp only [afterClose] at h ⊢
    cases flush <;> simp [appendRow, holds_cons, holds_nil, exec, h]

theorem append_flush (fs : FS R) (hp : fs.pendP = []) (rows : List R) :
    Holds (fun y => ∃ j, j ≤ rows.length ∧ y.primary = fs.primary ++ rows.take j) fs
      (appendSteps true rows) ∧
    (run fs (appendSteps true rows)).primary = fs.primary ++ rows ∧
    (run fs (appendSteps true rows)).pendP = [] ∧
    (run fs (appendSteps true rows)).temp = fs.temp ∧
    (run fs (appendSteps true rows)).pendT = fs.pendT := by
  have := holds_flatMap (appendRow true)
    (fun d y => y.primary = fs.primary ++ d ∧ y.pendP = [] ∧ y.temp = fs.temp ∧ y.pendT = fs.pendT)
    (fun d y => y.primary = fs.primary ++ d) (fun _ _ h => h.1) ?_ [] rows fs (by simp [hp])
  · simpa [appendSteps_eq] using this
  · rintro d a x ⟨h1, h2, h3, h4⟩
    -- the row sits in the handle's buffer after `pWrite` and reaches the file at `pFlush`: the file holds `d` in the
    -- first three states, `d ++ [a]` from then on
    simp [appendRow, holds_cons, holds_nil, exec, h1, h2, h3, h4]

theorem append_flush_quiet (fs : FS R) (hq : Quiet fs) (rows : List R) :
    (run fs (appendSteps true rows)).primary = fs.primary ++ rows ∧ Quiet (run fs (appendSteps true rows)) := by
  obtain ⟨_, h1, h2, h3, h4⟩ := append_flush fs hq.noPend rows
  exact ⟨h1, h2, h3.trans hq.noTemp, h4.trans hq.noPendT⟩

theorem append_isPrefix (fs : FS R) (flush : Bool) (rows : List R) :
    Holds (fun y => fs.primary <+: y.primary) fs (appendSteps flush rows) := by
  have := holds_flatMap (appendRow flush) (fun _ y => fs.primary <+: y.primary)
    (fun _ y => fs.primary <+: y.primary) (fun _ _ h => h) ?_ [] rows fs (List.prefix_refl _)
  · exact this.1.mono (fun y ⟨_, _, h⟩ => h)
  · intro d a x h
    have h' : ∀ l, fs.primary <+: x.primary ++ l := fun l => h.trans (List.prefix_append _ _)
    cases flush <;> simp [appendRow, holds_cons, holds_nil, exec, h, h', List.append_assoc]

/-! ## `Atomic` step lists -/

/-- the part about prefixes is `Holds (OldOrNew old new) fs L` written out (`atomic_iff`) -/
def _root_.TinyFlux.Model.IOOpsAux.Atomic (L : List (Step R)) (old new : List R) : Prop :=
  ∀ fs : FS R, fs.primary = old → Quiet fs →
    ((run fs L).primary = new ∧ Quiet (run fs L)) ∧
    ∀ k, ((run fs (L.take k)).primary = old ∨ (run fs (L.take k)).primary = new) ∧
         (run fs (L.take k)).pendP = []

open TinyFlux.Model.IOOpsAux (Atomic)

theorem atomic_iff {L : List (Step R)} {old new : List R} :
    Atomic L old new ↔ ∀ fs : FS R, fs.primary = old → Quiet fs →
      ((run fs L).primary = new ∧ Quiet (run fs L)) ∧ Holds (OldOrNew old new) fs L := Iff.rfl

/-- the shape of `noopRewriteSteps`: a remove / update that changes nothing -/
theorem atomic_noop (L : List (Step R)) (old : List R) (hL : L.all Step.safe = true) :
    Atomic (L ++ [.tClose, .tUnlink]) old old := by
  refine atomic_iff.mpr fun fs h1 hq => ?_
  have h := holds_safe (safe_append_cleanup hL) (fs := fs) ⟨h1, hq.noPend⟩
  obtain ⟨_, _, c, d⟩ := run_cleanup fs L
  exact ⟨⟨h.last.1, h.last.2, c, d⟩, h.mono OldOrNew.of_old⟩

theorem atomic_rewrite (flush : Bool) (rows : List (Option R)) (rebuild : Bool) (old : List R) :
    Atomic (rewriteSteps flush rows rebuild) old (newRows rows) := by
  refine atomic_iff.mpr fun fs h1 hq => ?_
  obtain ⟨a, b, _⟩ := rewrite_full fs flush rows rebuild
  refine ⟨⟨a, b⟩, ?_⟩
  obtain ⟨s1, t, s3, s4⟩ := run_staging fs flush rows
  rw [hq.noPend, List.append_nil, h1] at s1
  obtain ⟨w1, w2, _⟩ := swap_holds _ old _ t s1 s3 s4
  rw [rewriteSteps_eq]
  exact holds_append.mpr ⟨(holds_safe (staging_safe flush rows) ⟨h1, hq.noPend⟩).mono OldOrNew.of_old,
    holds_append.mpr ⟨w1, (holds_safe (tail_after_swap_safe rebuild) w2).mono OldOrNew.of_new⟩⟩

theorem atomic_reset (old : List R) : Atomic (resetSteps : List (Step R)) old [] := by
  refine atomic_iff.mpr fun fs h1 hq => ?_
  obtain ⟨a, b, c, d⟩ := reset_holds fs ⟨h1, hq.noPend⟩
  exact ⟨⟨b.1, b.2, c.trans hq.noTemp, d.trans hq.noPendT⟩, a⟩

theorem atomic_resetInTemp (flush : Bool) (rows : List (Option R)) (scanned : Bool) (old : List R) :
    Atomic (resetInTempSteps flush rows scanned) old [] := by
  refine atomic_iff.mpr fun fs h1 hq => ?_
  refine ⟨resetInTemp_full fs flush rows scanned, ?_⟩
  have s1 := holds_safe (scannedPart_safe flush rows scanned) (fs := fs) ⟨h1, hq.noPend⟩
  obtain ⟨r1, r2, _⟩ := reset_holds _ s1.last
  rw [resetInTempSteps_eq]
  exact holds_append.mpr ⟨s1.mono OldOrNew.of_old,
    holds_append.mpr ⟨r1, (holds_safe cleanup_safe r2).mono OldOrNew.of_new⟩⟩

/-- the calls of iterating storage: `seek(0)` and reading. `seek` flushes, so they may still hand buffered rows to
    the file: they preserve `primary` from a `Quiet` state (`exec_readOnly`) -/
def readOnly : Step R → Bool
  | .pSeek0 | .pRead => true
  | _ => false

theorem safe_of_readOnly {s : Step R} (h : readOnly s = true) : s.safe = true := by
  cases s <;> simp [readOnly] at h <;> rfl

theorem exec_readOnly {old : List R} (s : Step R) (hs : readOnly s = true) (fs : FS R)
    (h : fs.primary = old ∧ Quiet fs) : (exec fs s).primary = old ∧ Quiet (exec fs s) := by
  obtain ⟨h1, a, b, c⟩ := h
  cases s <;> simp [readOnly] at hs
  · exact ⟨by simp [exec, h1, a], ⟨by simp [exec], b, c⟩⟩
  · exact ⟨h1, ⟨a, b, c⟩⟩

theorem holds_readOnly {old : List R} {L : List (Step R)} (hL : L.all readOnly = true) {fs : FS R}
    (h : fs.primary = old ∧ Quiet fs) : Holds (fun y => y.primary = old ∧ Quiet y) fs L :=
  holds_of_steps (fun s hs => exec_readOnly s (List.all_eq_true.mp hL s hs)) h

theorem not_mutates_of_readOnly {L : List (Step R)} (hL : L.all readOnly = true) :
    ∀ st ∈ L, st.mutatesPrimary = false :=
  fun st hst => Step.not_mutates_of_safe (safe_of_readOnly (List.all_eq_true.mp hL st hst))

theorem atomic_readOnly_append (P L : List (Step R)) (old new : List R)
    (hP : P.all readOnly = true) (h : Atomic L old new) : Atomic (P ++ L) old new := by
  refine atomic_iff.mpr fun fs h1 hq => ?_
  have hp := holds_readOnly hP (fs := fs) ⟨h1, hq⟩
  obtain ⟨hfull, hpre⟩ := atomic_iff.mp h (run fs P) hp.last.1 hp.last.2
  exact ⟨by rw [run_append]; exact hfull,
    holds_append.mpr ⟨hp.mono (fun y hy => ⟨Or.inl hy.1, hy.2.noPend⟩), hpre⟩⟩

theorem atomic_readOnly (P : List (Step R)) (old : List R) (hP : P.all readOnly = true) :
    Atomic P old old := by
  refine atomic_iff.mpr fun fs h1 hq => ?_
  have hp := holds_readOnly hP (fs := fs) ⟨h1, hq⟩
  exact ⟨hp.last, hp.mono (fun y hy => ⟨Or.inl hy.1, hy.2.noPend⟩)⟩

end TinyFlux.Model.IO
