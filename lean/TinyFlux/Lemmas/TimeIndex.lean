import TinyFlux.Lemmas.Basics
import TinyFlux.Lemmas.QueryEval
import TinyFlux.Lemmas.Bisect
/-!
# The parallel sorted arrays `_timestamps` / `_storage_pos_sorted_by_ts`

`TimeRep ts pos l`: the two arrays are a time-sorted arrangement of the (time, position) pairs of `l`. The time search
turns on one notion: `tsHits ts pos Q`, the positions whose timestamp passes `Q`. `TimeRep.mem_tsHits` says these are
the rows of `l` whose instant passes; every branch of `Index.searchTs` but `!=` returns a list with the members of
`tsHits` for the leaf's test — a prefix or a suffix of `pos` where bisection applies (sortedness makes the filter a
`take` / `drop`), the run of equal timestamps for `==`, the filter itself on the generic path. `!=` returns the other
members of `pos`: the complement of that run inside `pos` (`TimeRep.mem_pos`), not a `tsHits`. The leaf `time < x` is
`Leaf.cmp .lt (.time x)`; `Leaf.eval_cmp_time` evaluates it on a point's instant.
-/
namespace TinyFlux.Model
open TinyFlux.Spec TinyFlux.Py

structure TimeRep (ts : List Int) (pos : List Nat) (l : List Point) : Prop where
  len_eq : ts.length = pos.length
  sorted : ts.Pairwise (· ≤ ·)
  perm : (ts.zip pos).Perm (l.zipIdx.map (fun pi => (pi.1.time, pi.2)))

/-- `Index.build`'s stable sort -/
theorem timeRep_build (l : List Point) :
    let buf := (l.zipIdx.map (fun pi => (pi.1.time, pi.2))).mergeSort (fun a b => decide (a.1 ≤ b.1))
    TimeRep (buf.map (·.1)) (buf.map (·.2)) l := by
  intro buf
  refine ⟨by simp, ?_, ?_⟩
  · rw [List.pairwise_map]
    have := List.pairwise_mergeSort (le := fun (a b : Int × Nat) => decide (a.1 ≤ b.1))
      (by intro a b c; simp; omega) (by intro a b; simp; omega)
      (l.zipIdx.map (fun pi => (pi.1.time, pi.2)))
    simpa using this
  · rw [← List.zip_of_prod rfl rfl]
    exact List.mergeSort_perm _ _

theorem TimeRep.ts_length {ts pos l} (h : TimeRep ts pos l) : ts.length = l.length := by
  have := h.perm.length_eq
  rw [List.length_zip, h.len_eq, Nat.min_self, List.length_map, List.length_zipIdx] at this
  exact h.len_eq.trans this

theorem timeRep_insert (ts : List Int) (pos : List Nat) (l : List Point) (h : TimeRep ts pos l) (p : Point)
    (hord : ∀ t, ts.getLast? = some t → t ≤ p.time) :
    TimeRep (ts ++ [p.time]) (pos ++ [ts.length]) (l ++ [p]) := by
  have hlen := h.ts_length
  obtain ⟨h1, h2, h3⟩ := h
  refine ⟨by simp [h1], ?_, ?_⟩
  · rw [List.pairwise_append]
    refine ⟨h2, List.pairwise_singleton _ _, ?_⟩
    intro a ha b hb
    rw [List.mem_singleton.mp hb]
    cases hg : ts.getLast? with
    | none =>
      rw [List.getLast?_eq_none_iff.mp hg] at ha
      cases ha
    | some t => exact Int.le_trans (le_getLast ts h2 t hg a ha) (hord t hg)
  · rw [List.zip_append h1, List.zipIdx_append, List.map_append]
    apply List.Perm.append h3
    simp [hlen]

theorem TimeRep.mem_zip {ts pos l} (h : TimeRep ts pos l) (t : Int) (i : Nat) :
    (t, i) ∈ ts.zip pos ↔ ∃ hi : i < l.length, l[i].time = t := by
  rw [h.perm.mem_iff, List.mem_map]
  constructor
  · rintro ⟨⟨p, k⟩, hk, he⟩
    obtain ⟨hk1, hk2⟩ := List.mem_zipIdx' hk
    cases he
    exact ⟨hk1, by rw [← hk2]⟩
  · rintro ⟨hi, rfl⟩
    exact ⟨(l[i], i), List.mk_mem_zipIdx_iff_getElem?.mpr (List.getElem?_eq_getElem hi), rfl⟩

theorem TimeRep.mem_ts {ts pos l} (h : TimeRep ts pos l) (t : Int) :
    t ∈ ts ↔ ∃ p ∈ l, p.time = t := by
  have : ts = (ts.zip pos).map (·.1) := (List.map_fst_zip (by rw [h.len_eq]; exact Nat.le_refl _)).symm
  rw [this]
  simp only [List.mem_map]
  constructor
  · rintro ⟨⟨t', i⟩, hm, rfl⟩
    obtain ⟨hi, e⟩ := (h.mem_zip t' i).mp hm
    exact ⟨l[i], List.getElem_mem _, e⟩
  · rintro ⟨p, hp, rfl⟩
    obtain ⟨i, hi, rfl⟩ := List.mem_iff_getElem.mp hp
    exact ⟨(l[i].time, i), (h.mem_zip _ _).mpr ⟨hi, rfl⟩, rfl⟩

theorem latestTime_spec (idx : Index) (l : List Point) (h : TimeRep idx.ts idx.pos l) (t : Int)
    (ht : idx.ts.getLast? = some t) : (∃ p ∈ l, p.time = t) ∧ ∀ p ∈ l, p.time ≤ t :=
  ⟨(h.mem_ts t).mp (List.mem_of_getLast? ht),
   fun p hp => le_getLast _ h.sorted t ht _ ((h.mem_ts _).mpr ⟨p, hp, rfl⟩)⟩

theorem timeRep_remove_update (ts : List Int) (pos : List Nat) (l : List Point) (h : TimeRep ts pos l)
    (keep : Nat → Bool) (r : Nat → Bool) (f : Nat → Nat)
    (hr : ∀ i, i < l.length → r i = !keep i)
    (hf : ∀ i, i < l.length → keep i = true → f i = cnt keep 0 i) :
    let z := (ts.zip pos).filter (fun tp => !r tp.2)
    TimeRep (z.map (·.1)) ((z.map (·.2)).map f) (keepIdx keep l 0) := by
  intro z
  obtain ⟨h1, h2, h3⟩ := h
  refine ⟨by simp, ?_, ?_⟩
  · have hsub : (z.map (·.1)).Sublist ((ts.zip pos).map (·.1)) := List.Sublist.map _ List.filter_sublist
    rw [List.map_fst_zip (by omega)] at hsub
    exact h2.sublist hsub
  · -- both sides are the kept (time, position) pairs, renumbered
    have e1 : (z.map (·.1)).zip ((z.map (·.2)).map f) = z.map (fun tp => (tp.1, f tp.2)) := by
      rw [List.map_map, List.zip_map']; rfl
    rw [e1, zipIdx_keepIdx_zero, List.map_map]
    refine ((h3.filter _).map _).trans (List.Perm.of_eq ?_)
    rw [List.filter_map, List.map_map]
    have e : l.zipIdx.filter ((fun tp : Int × Nat => !r tp.2) ∘ fun pi => (pi.1.time, pi.2))
        = l.zipIdx.filter (fun pi => keep pi.2) :=
      List.filter_congr (fun ⟨p, i⟩ hi => by simp [hr i (List.mem_zipIdx' hi).1])
    rw [e]
    refine List.map_congr_left (fun ⟨p, i⟩ hi => ?_)
    have hm := List.mem_filter.mp hi
    simp [hf i (List.mem_zipIdx' hm.1).1 (by simpa using hm.2)]

/-- the last arm of `Index.searchTs` (Model/Index.lean: test every timestamp), copied; the `rfl`s in
    `searchTs_cmp_or_generic` tie the two -/
def searchTsGeneric (i : Index) (l : Leaf) : Except Exc (List Nat) := do
  let hits ← (i.pos.zip i.ts).filterMapM (fun pt => do
    if ← callOn l (.time pt.2) then pure (some pt.1) else pure none)
  pure (dedup hits)

def tsHits (ts : List Int) (pos : List Nat) (Q : Int → Bool) : List Nat :=
  ((ts.zip pos).filter (fun tp => Q tp.1)).map (·.2)

theorem TimeRep.mem_tsHits {ts pos l} (h : TimeRep ts pos l) (Q : Int → Bool) (i : Nat) :
    i ∈ tsHits ts pos Q ↔ ∃ hi : i < l.length, Q l[i].time = true := by
  simp only [tsHits, List.mem_map, List.mem_filter]
  constructor
  · rintro ⟨⟨t, i'⟩, ⟨hz, hq⟩, rfl⟩
    obtain ⟨hi, rfl⟩ := (h.mem_zip t i').mp hz
    exact ⟨hi, hq⟩
  · rintro ⟨hi, hq⟩
    exact ⟨(l[i].time, i), ⟨(h.mem_zip _ _).mpr ⟨hi, rfl⟩, hq⟩, rfl⟩

theorem tsHits_take (ts : List Int) (pos : List Nat) (hlen : ts.length = pos.length) (Q : Int → Bool) (n : Nat)
    (h : ∀ j (hj : j < ts.length), Q ts[j] = true ↔ j < n) : tsHits ts pos Q = pos.take n := by
  unfold tsHits
  rw [filter_eq_take _ _ n (fun j hj => by rw [getElem_zip_fst]; exact h j _), List.map_take,
    List.map_snd_zip (by omega)]

theorem tsHits_drop (ts : List Int) (pos : List Nat) (hlen : ts.length = pos.length) (Q : Int → Bool) (n : Nat)
    (h : ∀ j (hj : j < ts.length), Q ts[j] = true ↔ n ≤ j) : tsHits ts pos Q = pos.drop n := by
  unfold tsHits
  rw [filter_eq_drop _ _ n (fun j hj => by rw [getElem_zip_fst]; exact h j _), List.map_drop,
    List.map_snd_zip (by omega)]

/-- `find_eq` and the `while` loop: the run of equal timestamps from the first one -/
theorem equalRun_eq_tsHits (idx : Index) (hs : idx.ts.Pairwise (· ≤ ·)) (x : Int) (m : Nat)
    (hm : m < idx.ts.length) (h1 : idx.ts[m] = x) (h2 : ∀ j (hj : j < idx.ts.length), j < m → idx.ts[j] ≠ x) :
    idx.equalRun m x = tsHits idx.ts idx.pos (fun t => t == x) := by
  unfold Index.equalRun tsHits
  rw [filter_eq_takeWhile_drop (fun tp : Int × Nat => tp.1 == x) _ m]
  · intro j hj hjm
    rw [getElem_zip_fst]; simpa using h2 j _ hjm
  · intro j k hk hmj hjk hp
    rw [getElem_zip_fst] at hp ⊢
    have hk' : k < idx.ts.length := by simp at hk; omega
    have a := sorted_le idx.ts hs m j hmj (by omega)
    have b := sorted_le idx.ts hs j k hjk hk'
    simp only [beq_iff_eq] at hp ⊢
    exact Int.le_antisymm (hp ▸ b) (h1 ▸ a)

/-- turn the two-way result of a `find_*` specification into one about `findPos` -/
theorem findPos_opt (f : V → V → Except PyErr V) (ts : List Int) (x : Int) (A : Nat → Prop) (B : Prop)
    (h : ∃ r, f (.list ts) (.int x) = .ok r ∧ ((∃ i : Nat, r = .int i ∧ A i) ∨ (r = .none ∧ B))) :
    ∃ o, Index.findPos f ts x = .ok o ∧ (∀ m, o = some m → A m) ∧ (o = none → B) := by
  obtain ⟨r, hf, ⟨m, rfl, ha⟩ | ⟨rfl, hb⟩⟩ := h
  · exact ⟨some m, by simp [Index.findPos, hf, pure, Except.pure], fun _ e => (by cases e; exact ha),
      fun e => (by cases e)⟩
  · exact ⟨none, by simp [Index.findPos, hf, pure, Except.pure], fun _ e => (by cases e), fun _ => hb⟩

/-- `find_lt` / `find_le` answer `b - 1` for the insertion point `b`, or `None` for `b = 0` -/
theorem findPos_pred (f : V → V → Except PyErr V) (ts : List Int) (x : Int) (b : Nat)
    (h : f (.list ts) (.int x) = .ok (if b = 0 then .none else .int ((b : Int) - 1))) :
    Index.findPos f ts x = .ok (if b = 0 then none else some (b - 1)) := by
  unfold Index.findPos; rw [h]
  by_cases hb : b = 0
  · simp [hb, pure, Except.pure]
  · have h0 : (1 : Int) ≤ (b : Int) := Int.ofNat_le.mpr (Nat.pos_of_ne_zero hb)
    have h1 : ((b : Int) - 1).toNat = b - 1 := Int.toNat_sub b 1
    simp [hb, h0, h1, pure, Except.pure]

/-- `find_gt` / `find_ge` answer the insertion point `b`, or `None` for `b = n` -/
theorem findPos_self (f : V → V → Except PyErr V) (ts : List Int) (x : Int) (b n : Nat)
    (h : f (.list ts) (.int x) = .ok (if b = n then .none else .int (b : Int))) :
    Index.findPos f ts x = .ok (if b = n then none else some b) := by
  unfold Index.findPos; rw [h]
  by_cases hb : b = n <;> simp [hb, pure, Except.pure]

/-- what remains for a branch: it returns `tsHits`, duplicates removed -/
theorem TimeRep.searchTs_of_hits {idx : Index} {l} (h : TimeRep idx.ts idx.pos l) (lf : Leaf) (Q : Int → Bool)
    (hQ : ∀ t, lf.eval (.time t) = Q t) (hr : idx.searchTs lf = .ok (dedup (tsHits idx.ts idx.pos Q))) :
    ∃ r, idx.searchTs lf = .ok r ∧ Selects r l (fun p => lf.eval (.time p.time)) :=
  ⟨_, hr, nodup_dedup _, fun i => by rw [mem_dedup, h.mem_tsHits]; simp only [hQ]⟩

/-- the generic branch computes `tsHits` from the arrays zipped the other way round -/
theorem filterMap_zip_eq_tsHits (ts : List Int) (pos : List Nat) (Q : Int → Bool) :
    (pos.zip ts).filterMap (fun pt => if Q pt.2 then some pt.1 else none) = tsHits ts pos Q := by
  unfold tsHits
  induction ts generalizing pos with
  | nil => simp
  | cons t ts ih =>
    cases pos with
    | nil => simp
    | cons p ps =>
      simp only [List.zip_cons_cons, List.filterMap_cons, List.filter_cons, ih]
      cases Q t <;> simp

theorem TimeRep.mem_pos {ts pos l} (h : TimeRep ts pos l) (i : Nat) : i ∈ pos ↔ i < l.length := by
  have e : pos = tsHits ts pos (fun _ => true) := by
    rw [tsHits, List.filter_eq_self.mpr (fun _ _ => rfl), List.map_snd_zip (by rw [h.len_eq]; exact Nat.le_refl _)]
  rw [e, h.mem_tsHits]; simp

theorem searchTsGeneric_eq (i : Index) (l : Leaf) :
    searchTsGeneric i l = .ok (dedup ((i.pos.zip i.ts).filterMap
      (fun e => if l.eval (.time e.2) then some e.1 else none))) := by
  unfold searchTsGeneric
  rw [filterMapM_ok (g := fun (e : Nat × Int) => if l.eval (.time e.2) then some e.1 else none)]
  · rfl
  · intro e _
    rw [callOn_eq l (.time e.2)]
    cases l.eval (.time e.2) <;> rfl

theorem searchTs_cmp_or_generic (i : Index) (l : Leaf) :
    (∃ c x, l = .cmp c (.time x)) ∨ i.searchTs l = searchTsGeneric i l := by
  cases l with
  | cmp c rhs =>
    cases rhs with
    | time x => exact .inl ⟨c, x, rfl⟩
    | _ => exact .inr (by cases c <;> rfl)
  | _ => exact .inr rfl

theorem TimeRep.mem_equalRun {idx : Index} {l : List Point} (h : TimeRep idx.ts idx.pos l) (x : Int) :
    ∃ o, Index.findPos Generated.find_eq idx.ts x = .ok o ∧
      ∀ i, i ∈ o.elim [] (fun m => idx.equalRun m x) ↔ ∃ hi : i < l.length, l[i].time = x := by
  obtain ⟨o, ho, hsome, hnone⟩ := findPos_opt _ idx.ts x _ _ ⟨_, find_eq_eq idx.ts x, first_eq_at_bisectLeft h.sorted x⟩
  refine ⟨o, ho, fun i => ?_⟩
  have hh := h.mem_tsHits (fun t => t == x) i
  simp only [beq_iff_eq] at hh
  rw [← hh]
  cases o with
  | some m =>
    obtain ⟨hm, h1, h2⟩ := hsome m rfl
    rw [Option.elim_some, equalRun_eq_tsHits idx h.sorted x m hm h1 h2]
  | none =>
    -- `find_eq` found nothing, i.e. no timestamp is `x` (`hnone`): no entry of the zipped arrays passes
    simp only [Option.elim_none, tsHits, List.not_mem_nil, false_iff, List.mem_map, List.mem_filter, beq_iff_eq]
    rintro ⟨⟨t, i'⟩, ⟨hz, rfl⟩, _⟩
    obtain ⟨j, hj, e⟩ := List.mem_iff_getElem.mp hz
    have := getElem_zip_fst j hj
    rw [e] at this
    exact hnone rfl j _ this.symm

/-! what the six bisected branches evaluate to: for `==` / `!=` the run of equal timestamps that `find_eq`
    starts (resp. its complement), for the ordered ones the slice of `pos` at the bisection point (`None`
    from the helper is the empty run / slice) -/

theorem searchTs_cmp_eq (idx : Index) (x : Int) (o : Option Nat)
    (ho : Index.findPos Generated.find_eq idx.ts x = .ok o) :
    idx.searchTs (.cmp .eq (.time x)) = .ok (dedup (o.elim [] (fun m => idx.equalRun m x))) := by
  cases o <;> simp [Index.searchTs, ho, bind, Except.bind, pure, Except.pure, dedup]

theorem searchTs_cmp_ne (idx : Index) (x : Int) (o : Option Nat)
    (ho : Index.findPos Generated.find_eq idx.ts x = .ok o) :
    idx.searchTs (.cmp .ne (.time x)) =
      .ok ((dedup idx.pos).filter (fun p => !(o.elim [] (fun m => idx.equalRun m x)).contains p)) := by
  cases o with
  | some m => simp [Index.searchTs, ho, bind, Except.bind, pure, Except.pure]
  | none =>
    simp only [Index.searchTs, ho, bind, Except.bind, pure, Except.pure, Option.elim_none, List.contains_nil,
      Bool.not_false, List.filter_eq_self.mpr (fun _ _ => rfl)]

theorem searchTs_cmp_lt (idx : Index) (x : Int) :
    idx.searchTs (.cmp .lt (.time x)) = .ok (dedup (idx.pos.take (bisectLeftNat idx.ts x))) := by
  simp only [Index.searchTs, findPos_pred _ _ _ _ (find_lt_eq idx.ts x), bind, Except.bind, pure, Except.pure]
  by_cases hb : bisectLeftNat idx.ts x = 0
  · simp [hb, dedup]
  · simp [hb, Nat.sub_add_cancel (Nat.pos_of_ne_zero hb)]

theorem searchTs_cmp_le (idx : Index) (x : Int) :
    idx.searchTs (.cmp .le (.time x)) = .ok (dedup (idx.pos.take (bisectRightNat idx.ts x))) := by
  simp only [Index.searchTs, findPos_pred _ _ _ _ (find_le_eq idx.ts x), bind, Except.bind, pure, Except.pure]
  by_cases hb : bisectRightNat idx.ts x = 0
  · simp [hb, dedup]
  · simp [hb, Nat.sub_add_cancel (Nat.pos_of_ne_zero hb)]

theorem searchTs_cmp_gt (idx : Index) (hlen : idx.ts.length = idx.pos.length) (x : Int) :
    idx.searchTs (.cmp .gt (.time x)) = .ok (dedup (idx.pos.drop (bisectRightNat idx.ts x))) := by
  simp only [Index.searchTs, findPos_self _ _ _ _ _ (find_gt_eq idx.ts x), bind, Except.bind, pure, Except.pure]
  by_cases hb : bisectRightNat idx.ts x = idx.ts.length
  · simp [hb, hlen, dedup]
  · simp [hb]

theorem searchTs_cmp_ge (idx : Index) (hlen : idx.ts.length = idx.pos.length) (x : Int) :
    idx.searchTs (.cmp .ge (.time x)) = .ok (dedup (idx.pos.drop (bisectLeftNat idx.ts x))) := by
  simp only [Index.searchTs, findPos_self _ _ _ _ _ (find_ge_eq idx.ts x), bind, Except.bind, pure, Except.pure]
  by_cases hb : bisectLeftNat idx.ts x = idx.ts.length
  · simp [hb, hlen, dedup]
  · simp [hb]

theorem searchTs_spec (idx : Index) (l : List Point) (h : TimeRep idx.ts idx.pos l) (lf : Leaf) :
    ∃ r, idx.searchTs lf = .ok r ∧ Selects r l (fun p => lf.eval (.time p.time)) := by
  have hs := h.sorted
  have hlen := h.len_eq
  rcases searchTs_cmp_or_generic idx lf with ⟨c, x, rfl⟩ | hgen
  · cases c with
    | eq =>
      obtain ⟨o, ho, hrun⟩ := h.mem_equalRun x
      refine ⟨_, searchTs_cmp_eq idx x o ho, nodup_dedup _, fun i => ?_⟩
      rw [mem_dedup, hrun]
      simp only [Leaf.eval_cmp_time, ordCmp, beq_iff_eq]
    | ne =>
      obtain ⟨o, ho, hrun⟩ := h.mem_equalRun x
      refine ⟨_, searchTs_cmp_ne idx x o ho, (nodup_dedup _).filter _, fun i => ?_⟩
      rw [List.mem_filter, mem_dedup, h.mem_pos]
      simp only [Bool.not_eq_true', List.contains_eq_mem, decide_eq_false_iff_not, hrun, Leaf.eval_cmp_time, ordCmp,
        beq_eq_false_iff_ne, ne_eq]
      exact ⟨fun ⟨hi, hn⟩ => ⟨hi, fun e => hn ⟨hi, e⟩⟩, fun ⟨hi, hn⟩ => ⟨hi, fun ⟨_, e⟩ => hn e⟩⟩
    | lt =>
      refine h.searchTs_of_hits _ _ (Leaf.eval_cmp_time .lt x) ?_
      rw [searchTs_cmp_lt, tsHits_take idx.ts idx.pos hlen _ _ (fun j hj => by
        rw [lt_bisectLeft_iff hs x hj]; simp [ordCmp])]
    | le =>
      refine h.searchTs_of_hits _ _ (Leaf.eval_cmp_time .le x) ?_
      rw [searchTs_cmp_le, tsHits_take idx.ts idx.pos hlen _ _ (fun j hj => by
        rw [lt_bisectRight_iff hs x hj]; simp [ordCmp, Int.le_iff_lt_or_eq])]
    | gt =>
      refine h.searchTs_of_hits _ _ (Leaf.eval_cmp_time .gt x) ?_
      rw [searchTs_cmp_gt idx hlen, tsHits_drop idx.ts idx.pos hlen _ _ (fun j hj => by
        rw [← Nat.not_lt, lt_bisectRight_iff hs x hj]; simp [ordCmp, Int.le_iff_lt_or_eq])]
    | ge =>
      refine h.searchTs_of_hits _ _ (Leaf.eval_cmp_time .ge x) ?_
      rw [searchTs_cmp_ge idx hlen, tsHits_drop idx.ts idx.pos hlen _ _ (fun j hj => by
        rw [← Nat.not_lt, lt_bisectLeft_iff hs x hj]; simp [ordCmp])]
  · refine h.searchTs_of_hits lf _ (fun _ => rfl) ?_
    rw [hgen, searchTsGeneric_eq, filterMap_zip_eq_tsHits idx.ts idx.pos (fun t => lf.eval (.time t))]

end TinyFlux.Model
