import TinyFlux.Spec.Basic
import TinyFlux.Lemmas.AL
/-! The Spec's dict operations (`dictSet`, `dictUpdate`, `eraseKeys`). `dictSet` is `alterAL` with a constant function
    (`dictSet_eq_alterAL`), which is how the facts about key lists come from `Lemmas/AL.lean`. -/
namespace TinyFlux.Spec
open TinyFlux.Model

variable {V : Type}

theorem dictSet_eq_alterAL (d : List (String × V)) (k : String) (v : V) :
    dictSet d k v = alterAL k v (fun _ => v) d := by
  induction d with
  | nil => rfl
  | cons kv t ih => simp only [dictSet, alterAL, ih]

theorem keys_dictSet (d : List (String × V)) (k : String) (v : V) :
    (dictSet d k v).map (·.1) = if k ∈ d.map (·.1) then d.map (·.1) else d.map (·.1) ++ [k] := by
  rw [dictSet_eq_alterAL]
  exact keys_alterAL k v _ d

theorem mem_dictSet (d : List (String × V)) (k : String) (v : V) (kv : String × V)
    (h : kv ∈ dictSet d k v) : kv = (k, v) ∨ kv ∈ d := by
  induction d with
  | nil => simpa [dictSet] using h
  | cons x t ih =>
    unfold dictSet at h
    split at h
    · rcases List.mem_cons.mp h with h | h
      · exact .inl (by simp_all)
      · exact .inr (List.mem_cons_of_mem _ h)
    · rcases List.mem_cons.mp h with h | h
      · exact .inr (h ▸ List.mem_cons_self)
      · exact (ih h).imp_right (List.mem_cons_of_mem _)

theorem nodup_keys_dictSet (d : List (String × V)) (k : String) (v : V) (h : (d.map (·.1)).Nodup) :
    ((dictSet d k v).map (·.1)).Nodup := by
  rw [dictSet_eq_alterAL]
  exact nodup_keys_alterAL k v _ d h

theorem nodup_keys_dictUpdate (d new : List (String × V)) (h : (d.map (·.1)).Nodup) :
    ((dictUpdate d new).map (·.1)).Nodup := by
  unfold dictUpdate
  induction new generalizing d with
  | nil => exact h
  | cons kv t ih => exact ih _ (nodup_keys_dictSet d kv.1 kv.2 h)

theorem dictUpdate_of_nodup (d new : List (String × V))
    (h : ((d ++ new).map (·.1)).Nodup) : dictUpdate d new = d ++ new := by
  have e : (fun acc (kv : String × V) => dictSet acc kv.1 kv.2) = fun acc kv => alterAL kv.1 kv.2 (fun _ => kv.2) acc :=
    funext fun _ => funext fun _ => dictSet_eq_alterAL _ _ _
  rw [dictUpdate, e]
  exact foldl_alterAL_fresh new d h

theorem nodup_keys_eraseKeys (d : List (String × V)) (ks : List String) (h : (d.map (·.1)).Nodup) :
    ((eraseKeys d ks).map (·.1)).Nodup :=
  h.sublist (List.filter_sublist.map _)

theorem eraseKeys_nil (d : List (String × V)) : eraseKeys d [] = d :=
  List.filter_eq_self.mpr fun _ _ => rfl

theorem mem_dictUpdate (d new : List (String × V)) (kv : String × V) (h : kv ∈ dictUpdate d new) :
    kv ∈ new ∨ kv ∈ d := by
  unfold dictUpdate at h
  induction new generalizing d with
  | nil => exact .inr h
  | cons x t ih =>
    rcases ih _ h with h | h
    · exact .inl (List.mem_cons_of_mem _ h)
    · rcases mem_dictSet d x.1 x.2 kv h with rfl | h
      · exact .inl List.mem_cons_self
      · exact .inr h

theorem lookup_dictSet (d : List (String × V)) (k : String) (v : V) (k' : String) :
    (dictSet d k v).lookup k' = if k' = k then some v else d.lookup k' := by
  rw [dictSet_eq_alterAL, ← lookupAL_eq_lookup, ← lookupAL_eq_lookup, lookupAL_alterAL]
  simp only [beq_iff_eq, eq_comm (a := k)]

theorem lookup_eraseKeys (d : List (String × V)) (ks : List String) (k : String) (hk : k ∈ ks) :
    (eraseKeys d ks).lookup k = none := by
  rw [List.lookup_eq_none_iff]
  intro p hp
  have hp' := (List.mem_filter.mp hp).2
  simp only [Bool.not_eq_true', List.contains_eq_mem, decide_eq_false_iff_not] at hp'
  simpa using fun e : k = p.1 => hp' (e ▸ hk)

end TinyFlux.Spec
