import TinyFlux.Py.Basic
import TinyFlux.Generated.Utils
/-! The `bisect` contract on sorted lists: an insertion point splits the list where the comparison with the probe
switches, once (`lt_length_takeWhile_iff`). The `find_*` helpers translated from utils.py are first computed in terms of
the two insertion points (`find_*_eq`, no sortedness needed); the documented positions (`First`, `Last`) then follow
from the split. The time index (`Lemmas/TimeIndex.lean`) and C18 rest on these. The insertion points are `Py/Basic.lean`'s
`takeWhile` contract, which is CPython's `bisect` on sorted lists only: what holds here of an unsorted list says nothing
about the code. -/
namespace TinyFlux.Py
open TinyFlux.Generated

theorem lt_length_takeWhile_iff {α : Type} {p : α → Bool} {l : List α}
    (hp : l.Pairwise fun a b => p b = true → p a = true) {j : Nat} (h : j < l.length) :
    j < (l.takeWhile p).length ↔ p l[j] = true := by
  induction l generalizing j with
  | nil => cases h
  | cons a t ih =>
    have ⟨ha, ht⟩ := List.pairwise_cons.mp hp
    rw [List.takeWhile_cons]
    cases hpa : p a with
    | true => cases j with
      | zero => simpa using hpa
      | succ j => simpa using ih ht (Nat.lt_of_succ_lt_succ h)
    | false =>
      have : p (a :: t)[j] = false := by
        cases j with
        | zero => exact hpa
        | succ j => exact Bool.eq_false_iff.mpr fun hj => by simp [ha _ (List.getElem_mem _) hj] at hpa
      simp [this]

theorem lt_bisectLeft_iff {l : List Int} (hs : l.Pairwise (· ≤ ·)) (x : Int) {j : Nat} (h : j < l.length) :
    j < bisectLeftNat l x ↔ l[j] < x :=
  (lt_length_takeWhile_iff (hs.imp fun hab hb => decide_eq_true (Int.lt_of_le_of_lt hab (of_decide_eq_true hb))) h).trans
    decide_eq_true_iff

theorem lt_bisectRight_iff {l : List Int} (hs : l.Pairwise (· ≤ ·)) (x : Int) {j : Nat} (h : j < l.length) :
    j < bisectRightNat l x ↔ l[j] ≤ x :=
  (lt_length_takeWhile_iff (hs.imp fun hab hb => decide_eq_true (Int.le_trans hab (of_decide_eq_true hb))) h).trans
    decide_eq_true_iff

theorem bisectLeft_le (l : List Int) (x : Int) : bisectLeftNat l x ≤ l.length :=
  (List.takeWhile_sublist _).length_le

theorem bisectRight_le (l : List Int) (x : Int) : bisectRightNat l x ≤ l.length :=
  (List.takeWhile_sublist _).length_le

theorem getItem_nat (l : List Int) (i : Nat) (h : i < l.length) :
    getItem (.list l) (.int (i : Int)) = .ok (.int l[i]) := by
  have h0 : ¬ ((i : Int) < 0) := by omega
  have h1 : (0 : Int) ≤ (i : Int) := by omega
  simp [getItem, h0, h1, List.getElem?_eq_getElem h, pure, Except.pure]

/-- `r` is the leftmost position of `l` whose entry satisfies `P`, or `None` if there is none. -/
def First (l : List Int) (P : Int → Prop) (r : V) : Prop :=
  (∃ i : Nat, r = .int i ∧ ∃ h : i < l.length, P l[i] ∧ ∀ j (hj : j < l.length), j < i → ¬ P l[j]) ∨
  (r = .none ∧ ∀ j (hj : j < l.length), ¬ P l[j])

/-- `r` is the rightmost position of `l` whose entry satisfies `P`, or `None` if there is none. -/
def Last (l : List Int) (P : Int → Prop) (r : V) : Prop :=
  (∃ i : Nat, r = .int i ∧ ∃ h : i < l.length, P l[i] ∧ ∀ j (hj : j < l.length), i < j → ¬ P l[j]) ∨
  (r = .none ∧ ∀ j (hj : j < l.length), ¬ P l[j])

section
attribute [local simp] bisect_left bisect_right len sub ne eq pyEq truthy bind Except.bind pure Except.pure
  Int.natCast_inj

theorem find_lt_eq (l : List Int) (x : Int) : find_lt (.list l) (.int x) =
    .ok (if bisectLeftNat l x = 0 then .none else .int ((bisectLeftNat l x : Int) - 1)) := by
  by_cases h : bisectLeftNat l x = 0 <;> simp [find_lt, h]

theorem find_le_eq (l : List Int) (x : Int) : find_le (.list l) (.int x) =
    .ok (if bisectRightNat l x = 0 then .none else .int ((bisectRightNat l x : Int) - 1)) := by
  by_cases h : bisectRightNat l x = 0 <;> simp [find_le, h]

theorem find_gt_eq (l : List Int) (x : Int) : find_gt (.list l) (.int x) =
    .ok (if bisectRightNat l x = l.length then .none else .int (bisectRightNat l x)) := by
  by_cases h : bisectRightNat l x = l.length <;> simp [find_gt, h]

theorem find_ge_eq (l : List Int) (x : Int) : find_ge (.list l) (.int x) =
    .ok (if bisectLeftNat l x = l.length then .none else .int (bisectLeftNat l x)) := by
  by_cases h : bisectLeftNat l x = l.length <;> simp [find_ge, h]

theorem find_eq_eq (l : List Int) (x : Int) : find_eq (.list l) (.int x) =
    .ok (if l[bisectLeftNat l x]? = some x then .int (bisectLeftNat l x) else .none) := by
  by_cases h : bisectLeftNat l x = l.length
  · simp [find_eq, h]
  · have hlt := Nat.lt_of_le_of_ne (bisectLeft_le l x) h
    by_cases hx : l[bisectLeftNat l x] = x <;> simp [find_eq, h, getItem_nat l _ hlt, hlt, hx]
end

theorem last_of_prefix {l : List Int} {P : Int → Prop} {b : Nat} (hb : b ≤ l.length)
    (hP : ∀ j (h : j < l.length), j < b ↔ P l[j]) :
    Last l P (if b = 0 then .none else .int ((b : Int) - 1)) := by
  split
  · next h => exact .inr ⟨rfl, fun j hj hp => Nat.not_lt_zero j (h ▸ (hP j hj).2 hp)⟩
  · next h =>
    have hlt := Nat.sub_one_lt h
    exact .inl ⟨b - 1, congrArg V.int (Int.natCast_sub (Nat.pos_of_ne_zero h)).symm,
      Nat.lt_of_lt_of_le hlt hb, (hP _ _).1 hlt,
      fun j hj hij hp => Nat.lt_irrefl _ (Nat.lt_of_lt_of_le hij (Nat.le_sub_one_of_lt ((hP j hj).2 hp)))⟩

theorem first_of_suffix {l : List Int} {P : Int → Prop} {b : Nat} (hb : b ≤ l.length)
    (hP : ∀ j (h : j < l.length), b ≤ j ↔ P l[j]) :
    First l P (if b = l.length then .none else .int b) := by
  split
  · next h => exact .inr ⟨rfl, fun j hj hp => Nat.not_le_of_lt hj (h ▸ (hP j hj).2 hp)⟩
  · next h => exact .inl ⟨b, rfl, Nat.lt_of_le_of_ne hb h, (hP b _).1 (Nat.le_refl b),
      fun j hj hji hp => Nat.not_le_of_lt hji ((hP j hj).2 hp)⟩

/- The entries equal to `x` are those from `bisect_left` up to `bisect_right`, so `x` occurs iff it stands at
   `bisect_left`. -/
theorem first_eq_at_bisectLeft {l : List Int} (hs : l.Pairwise (· ≤ ·)) (x : Int) :
    First l (· = x) (if l[bisectLeftNat l x]? = some x then .int (bisectLeftNat l x) else .none) := by
  split
  · next h =>
    obtain ⟨hlt, hx⟩ := List.getElem?_eq_some_iff.mp h
    exact .inl ⟨_, rfl, hlt, hx, fun j hj hji e => Int.lt_irrefl x (e ▸ (lt_bisectLeft_iff hs x hj).1 hji)⟩
  · next h =>
    refine .inr ⟨rfl, fun j hj e => h ?_⟩
    have hbj : bisectLeftNat l x ≤ j := Nat.le_of_not_lt fun hjb =>
      Int.lt_irrefl x (e ▸ (lt_bisectLeft_iff hs x hj).1 hjb)
    have hb := Nat.lt_of_le_of_lt hbj hj
    have h1 : x ≤ l[bisectLeftNat l x] := Int.not_lt.mp (mt (lt_bisectLeft_iff hs x hb).2 (Nat.lt_irrefl _))
    have h2 : l[bisectLeftNat l x] ≤ x :=
      (lt_bisectRight_iff hs x hb).1 (Nat.lt_of_le_of_lt hbj ((lt_bisectRight_iff hs x hj).2 (Int.le_of_eq e)))
    rw [List.getElem?_eq_getElem hb, Int.le_antisymm h2 h1]

end TinyFlux.Py
