import TinyFlux.Lemmas.WriteLoops
/-! Refinement of insert / remove / drop / remove_all / update, and preservation of the invariant.

    Each helper gets a specification, and the `*_refines` theorem of its operation puts it behind what `State.step` does
    first. `_remove_helper` (`removeHelper_spec`) needs a state with the invariant whose index is valid when it is
    maintained (`s.cfg.autoIndex = true → s.index.valid = true`: what `read_op` establishes, `readOp_spec`);
    `_update_helper` (`updateHelper_spec`) needs `Inv s` alone; both are transported through `read_op`. The loop of
    `_insert_helper` (`insertLoop_spec`) asks of the index only that it represents storage when it is maintained and
    valid, and `insert`, like `remove_all`, does not go through `read_op`. Dropping a measurement is a remove with the
    measurement query, `remove_all` a reset; `step_write_refines` collects them. -/
namespace TinyFlux.Model
open TinyFlux.Spec
namespace Writes

theorem reset_spec (s : State) :
    Inv s.resetDatabase ∧ s.resetDatabase.storage = [] ∧ s.resetDatabase.cfg = s.cfg := by
  refine ⟨⟨by simp [State.resetDatabase], ?_⟩, rfl, rfl⟩
  intro hv
  simp only [State.resetDatabase] at hv ⊢
  cases ha : s.cfg.autoIndex
  · simp [ha, Index.invalidate] at hv
  · simp only [if_true, Index.reset]; exact represents_empty

/-- one iteration of `_insert_helper`'s loop, for the point with its measurement already overridden: the `let s1`, `let s2`
    of the `some p` arm of `State.insertLoop` (Model/DB.lean), copied; `insertLoop_cons` ties the two -/
def insertStep (s : State) (p : Point) : State :=
  let s1 := { s with storage := s.storage ++ [s.cfg.norm p] }
  if s1.cfg.autoIndex && s1.index.valid then
    if !s1.index.empty && (match s1.index.latestTime with | some lt => decide (p.time < lt) | none => false)
    then { s1 with index := s1.index.invalidate }
    else { s1 with index := s1.index.insert p }
  else s1

theorem insertLoop_cons (s : State) (m : Option String) (p : Point) (t : List (Option Point)) (c : Nat) :
    State.insertLoop s m (some p :: t) c = State.insertLoop (insertStep s (setMeas (effMeas m) p)) m t (c + 1) := by
  rw [State.insertLoop]
  unfold insertStep setMeas
  cases effMeas m <;> rfl

theorem insertStep_storage (s : State) (p : Point) : (insertStep s p).storage = s.storage ++ [s.cfg.norm p] := by
  unfold insertStep; simp only [apply_ite State.storage, ite_self]

theorem insertStep_cfg (s : State) (p : Point) : (insertStep s p).cfg = s.cfg := by
  unfold insertStep; simp only [apply_ite State.cfg, ite_self]

/-- `_insert_helper`'s out-of-order check against `latest_time`: the inner condition of `insertStep` (and so of
    `State.insertLoop`), copied; `insertStep_index` ties the two -/
def outOfOrder (s : State) (p : Point) : Bool :=
  !s.index.empty && (match s.index.latestTime with | some lt => decide (p.time < lt) | none => false)

theorem insertStep_index (s : State) (p : Point) :
    (insertStep s p).index =
      if s.cfg.autoIndex && s.index.valid then
        if outOfOrder s p then s.index.invalidate else s.index.insert p
      else s.index := by
  unfold insertStep outOfOrder
  simp only [apply_ite State.index]

theorem insertStep_noauto (s : State) (p : Point) (ha : s.cfg.autoIndex = false) : (insertStep s p).index = s.index := by
  rw [insertStep_index, ha, Bool.false_and, if_neg Bool.false_ne_true]

theorem outOfOrder_iff {s : State} (hrep : Represents s.index s.storage) (p : Point) :
    outOfOrder s p = true ↔ ∃ q ∈ s.storage, p.time < q.time := by
  have htr := hrep.timeRep
  unfold outOfOrder
  cases hl : s.index.latestTime with
  | none =>
    -- no time stamp, so nothing is stored
    have hts : s.index.ts = [] := by simpa [Index.latestTime] using hl
    have hlen := htr.ts_length
    rw [hts] at hlen
    have : s.storage = [] := List.eq_nil_of_length_eq_zero (by simpa using hlen.symm)
    simp [this]
  | some t =>
    -- the latest time stamp is the time of a stored point and bounds all of them
    obtain ⟨⟨q0, hq0, hq0t⟩, hmax⟩ := latestTime_spec s.index s.storage htr t hl
    have hne : s.index.empty = false := by
      have : s.index.numItems ≠ 0 := by
        rw [hrep.num]; exact Nat.ne_of_gt (List.length_pos_of_mem hq0)
      simp [Index.empty, this]
    simp only [hne, Bool.not_false, Bool.true_and, decide_eq_true_eq]
    exact ⟨fun h => ⟨q0, hq0, hq0t ▸ h⟩, fun ⟨q, hq, h⟩ => Int.lt_of_lt_of_le h (hmax q hq)⟩

theorem insertStep_rep (s : State) (p : Point) (hp : Good s.cfg p)
    (hrep : s.index.valid = true → Represents s.index s.storage) :
    (insertStep s p).index.valid = true → s.cfg.autoIndex = true →
      Represents (insertStep s p).index (insertStep s p).storage := by
  intro hv ha
  rw [insertStep_storage, hp.2]
  rw [insertStep_index, ha, Bool.true_and] at hv ⊢
  by_cases hval : s.index.valid = true
  · rw [if_pos hval] at hv ⊢
    by_cases hc : outOfOrder s p = true
    · rw [if_pos hc] at hv
      exact absurd hv (by simp [Index.invalidate])
    · rw [if_neg hc]
      refine represents_insert (hrep hval) hp.1 fun t ht => ?_
      -- the latest time stamp is a stored point's, and nothing stored is newer than `p`
      obtain ⟨⟨q, hq, rfl⟩, _⟩ := latestTime_spec s.index s.storage (hrep hval).timeRep t ht
      exact Int.not_lt.mp fun h => hc ((outOfOrder_iff (hrep hval) p).mpr ⟨q, hq, h⟩)
  · rw [if_neg hval] at hv
    exact absurd hv hval

theorem insertLoop_spec (m : Option String) (hm : m ≠ some "") (pts : List (Option Point)) :
    ∀ (s : State) (c : Nat), (∀ p ∈ s.storage, Good s.cfg p) →
      (s.cfg.autoIndex = true → s.index.valid = true → Represents s.index s.storage) →
      (∀ p, some p ∈ pts → Good s.cfg (setMeas (effMeas m) p)) →
      ∃ s', State.insertLoop s m pts c =
          (s', c + (insertPrefix m pts).1.length, if (insertPrefix m pts).2 then some .type else none) ∧
        s'.storage = s.storage ++ (insertPrefix m pts).1 ∧ s'.cfg = s.cfg ∧
        (∀ p ∈ s'.storage, Good s.cfg p) ∧
        (s.cfg.autoIndex = true → s'.index.valid = true → Represents s'.index s'.storage) ∧
        (s.cfg.autoIndex = false → s'.index = s.index) := by
  induction pts with
  | nil => exact fun s c hg hr _ => ⟨s, rfl, (List.append_nil _).symm, rfl, hg, hr, fun _ => rfl⟩
  | cons x t ih =>
    intro s c hg hr hok
    cases x with
    | none => exact ⟨s, rfl, (List.append_nil _).symm, rfl, hg, hr, fun _ => rfl⟩
    | some p =>
      have hp : Good s.cfg (setMeas (effMeas m) p) := hok p List.mem_cons_self
      have hcfg := insertStep_cfg s (setMeas (effMeas m) p)
      have hsto := insertStep_storage s (setMeas (effMeas m) p)
      rw [hp.2] at hsto
      obtain ⟨s', e, h1, h2, h3, h4, h5⟩ := ih (insertStep s (setMeas (effMeas m) p)) (c + 1)
        (by rw [hsto, hcfg]; exact List.forall_mem_append.mpr ⟨hg, List.forall_mem_singleton.mpr hp⟩)
        (by rw [hcfg]; exact fun ha hv => insertStep_rep s _ hp (hr ha) hv ha)
        (by rw [hcfg]; exact fun q hq => hok q (List.mem_cons_of_mem _ hq))
      have hpre : insertPrefix m (some p :: t) =
          (setMeas (effMeas m) p :: (insertPrefix m t).1, (insertPrefix m t).2) := by
        rw [effMeas_of_ne m hm]; rfl
      rw [hcfg] at h2 h3 h4 h5
      refine ⟨s', ?_, by rw [h1, hsto, hpre, List.append_assoc]; rfl, h2, h3, h4,
        fun ha => (h5 ha).trans (insertStep_noauto s _ ha)⟩
      rw [insertLoop_cons, e, hpre, List.length_cons, Nat.add_assoc, Nat.add_comm 1]

theorem insert_refines (s : State) (hs : Inv s) (pts : List (Option Point)) (m : Option String)
    (hok : OpOK s.cfg (.insert pts m)) (hm : m ≠ some "") :
    (s.step (.insert pts m)).2 = (Spec.step s.storage (.insert pts m)).2 ∧
    (s.step (.insert pts m)).1.storage = (Spec.step s.storage (.insert pts m)).1 ∧
    (s.step (.insert pts m)).1.cfg = s.cfg ∧ Inv (s.step (.insert pts m)).1 := by
  obtain ⟨s', e, h1, h2, h3, h4, h5⟩ := insertLoop_spec m hm pts s 0 hs.good (fun _ hv => hs.rep hv) hok
  simp only [State.step, State.insertOp, Spec.step, e, Nat.zero_add]
  generalize insertPrefix m pts = pre at *
  obtain ⟨l, eb⟩ := pre
  refine ⟨by cases eb <;> rfl, ?_, ?_, ?_⟩
  · simp only [apply_ite State.storage, ite_self, h1]
  · simp only [apply_ite State.cfg, ite_self, h2]
  · -- the `finally` clause invalidates a valid index when not auto-indexing and something was stored
    rw [h2]
    cases ha : s.cfg.autoIndex
    · have hidx := h5 ha
      by_cases hc : (l.length != 0 && s'.index.valid) = true
      · simp only [Bool.not_false, Bool.and_true, hc, if_true]
        exact ⟨by simpa [h2] using h3, by simp [Index.invalidate]⟩
      · simp only [Bool.not_false, Bool.and_true, hc, Bool.false_eq_true, if_false]
        refine ⟨by simpa [h2] using h3, fun hv => ?_⟩
        have hl : l = [] := by
          rw [hv] at hc
          simpa using hc
        rw [h1, hl, hidx, List.append_nil]
        exact hs.rep (hidx ▸ hv)
    · simp only [Bool.not_true, Bool.and_false, Bool.false_and, Bool.false_eq_true, if_false]
      exact ⟨by simpa [h2] using h3, h4 ha⟩

/-! For C06 (`inorder_insert_keeps_valid`, `out_of_order_only_invalidates`): with automatic indexing the insert of one
    point is one `insertStep`, and it leaves a valid index valid exactly when no stored point is later. -/

theorem insertStep_valid_iff (s : State) (hs : Inv s) (hv : s.index.valid = true) (ha : s.cfg.autoIndex = true)
    (p : Point) : (insertStep s p).index.valid = true ↔ ∀ q ∈ s.storage, q.time ≤ p.time := by
  rw [insertStep_index, ha, hv, Bool.and_self, if_pos rfl]
  by_cases hc : outOfOrder s p = true
  · obtain ⟨q, hq, hlt⟩ := (outOfOrder_iff (hs.rep hv) p).mp hc
    rw [if_pos hc]
    exact ⟨fun hf => by simp [Index.invalidate] at hf, fun hall => absurd hlt (Int.not_lt.mpr (hall q hq))⟩
  · rw [if_neg hc]
    refine ⟨fun _ q hq => Int.not_lt.mp fun hlt => hc ((outOfOrder_iff (hs.rep hv) p).mpr ⟨q, hq, hlt⟩), fun _ => ?_⟩
    simp [Index.insert, Index.insertMaps, hv]

theorem insert_single (s : State) (ha : s.cfg.autoIndex = true) (p : Point) (m : Option String) :
    (s.step (.insert [some p] m)).1 = insertStep s (setMeas (effMeas m) p) := by
  simp only [State.step, State.insertOp]
  rw [insertLoop_cons]
  simp only [State.insertLoop, insertStep_cfg, ha]
  simp

theorem setMeas_time (m : Option String) (p : Point) : (setMeas m p).time = p.time := by
  cases m <;> rfl

/-- The index path, by the tests the code makes on the search result (`n` rows are selected): nothing found and
    `n = 0`; as many found as the index counts and `n` is the number of rows; or neither, and flagging rows by
    membership in the result is flagging them by the selection. -/
theorem indexPath_cases (s : State) (hs : Inv s) (q : Query) (m : Option String) (hm : m ≠ some "")
    (h : (s.index.valid && exact q) = true) :
    ∃ items, s.indexSearch q m = .ok items ∧ items.length = (s.storage.filter (selected q m)).length ∧
      ((items.isEmpty = true ∧ (s.storage.filter (selected q m)).length = 0) ∨
       (items.isEmpty = false ∧ (items.length == s.index.numItems) = true ∧
          (s.storage.filter (selected q m)).length = s.storage.length) ∨
       (items.isEmpty = false ∧ (items.length == s.index.numItems) = false ∧
          ∀ {β : Type} (f : Point → Bool → β),
            s.storage.zipIdx.map (fun pi => f pi.1 (items.contains pi.2)) =
              s.storage.map (fun p => f p (selected q m p)))) := by
  obtain ⟨hv, hq⟩ := Bool.and_eq_true_iff.mp h
  obtain ⟨items, hi, hsel⟩ := indexSearch_spec s hs hv q hq m hm
  have hcount := hsel.length_eq
  refine ⟨items, hi, hcount, ?_⟩
  cases h1 : items.isEmpty
  · cases h2 : items.length == s.index.numItems
    · exact .inr (.inr ⟨rfl, rfl, fun f => rows_index s.storage _ items hsel.mem f⟩)
    · exact .inr (.inl ⟨rfl, rfl, by rw [← hcount, ← (hs.rep hv).num]; exact eq_of_beq h2⟩)
  · exact .inl ⟨rfl, by rw [← hcount]; exact List.isEmpty_iff_length_eq_zero.mp h1⟩

theorem mapM_scanSel (l : List Point) (q : Query) (m : Option String) (hm : m ≠ some "") :
    l.mapM (State.scanSel q m) = .ok (l.map (selected q m)) :=
  mapM_ok _ _ l fun p _ => scanSel_eq q m hm p

theorem removeFinish_spec (s : State) (hs : Inv s) (hv : s.cfg.autoIndex = true → s.index.valid = true)
    (sel : Point → Bool) :
    ∃ s', removeFinish s (State.scanRemoveLoop (s.storage.map (fun p => (p, sel p))) 0 0) =
        (s', (s.storage.filter sel).length) ∧
      s'.storage = s.storage.filter (fun p => !sel p) ∧ s'.cfg = s.cfg ∧ Inv s' := by
  obtain ⟨hk, hlen, hrep⟩ := scanRemoveLoop_spec s.storage sel
  generalize State.scanRemoveLoop (s.storage.map (fun p => (p, sel p))) 0 0 = res at *
  obtain ⟨k, r, u⟩ := res
  subst hk
  rw [← hlen]
  unfold removeFinish
  by_cases h1 : r.isEmpty = true
  · have hr : r = [] := by simpa using h1
    subst hr
    exact ⟨s, rfl, (filter_not_of_none sel _ hlen.symm).symm, rfl, hs⟩
  · by_cases h2 : (s.storage.filter (fun p => !sel p)).isEmpty = true
    · obtain ⟨a, b, c⟩ := reset_spec s
      simp only [h1, h2, if_true]
      exact ⟨s.resetDatabase, rfl, by rw [b]; exact (List.isEmpty_iff.mp h2).symm, c, a⟩
    · simp only [h1, h2]
      refine ⟨_, rfl, rfl, rfl, fun p hp => hs.good p (List.mem_filter.mp hp).1, ?_⟩
      cases ha : s.cfg.autoIndex
      · simp [Index.invalidate]
      · exact fun _ => hrep _ (hs.rep (hv ha))

theorem removeHelper_spec (s : State) (hs : Inv s) (hv : s.cfg.autoIndex = true → s.index.valid = true)
    (q : Query) (m : Option String) (hm : m ≠ some "") :
    ∃ s', s.removeHelper q m = .ok (s', (s.storage.filter (selected q m)).length) ∧
      s'.storage = s.storage.filter (fun p => !selected q m p) ∧ s'.cfg = s.cfg ∧ Inv s' := by
  obtain ⟨s', e, hs'⟩ := removeFinish_spec s hs hv (selected q m)
  rw [removeHelper_eq]
  by_cases h : (s.index.valid && exact q) = true
  · obtain ⟨items, hi, hcount, hc⟩ := indexPath_cases s hs q m hm h
    rw [if_pos h, hi, ← hcount]
    simp only [bind, Except.bind, pure, Except.pure]
    rcases hc with ⟨h1, h0⟩ | ⟨h1, h2, hall⟩ | ⟨h1, h2, hrows⟩
    · -- nothing found: nothing is selected
      rw [if_pos h1, List.isEmpty_iff.mp h1]
      exact ⟨s, rfl, (filter_not_of_none _ _ h0).symm, rfl, hs⟩
    · -- as many found as there are rows: every row is selected
      obtain ⟨a, b, c⟩ := reset_spec s
      rw [if_neg (Bool.eq_false_iff.mp h1), if_pos h2]
      exact ⟨_, rfl, b.trans (filter_not_of_all _ _ hall).symm, c, a⟩
    · rw [if_neg (Bool.eq_false_iff.mp h1), if_neg (Bool.eq_false_iff.mp h2), removeLoop_eq items s.storage,
        hrows Prod.mk, hcount]
      exact ⟨s', congrArg Except.ok e, hs'⟩
  · rw [if_neg h, mapM_scanSel _ q m hm]
    rw [← rows_scan] at e
    exact ⟨s', congrArg Except.ok e, hs'⟩

theorem remove_refines (s : State) (hs : Inv s) (q : Query) (m : Option String) (hm : m ≠ some "") :
    (s.step (.remove q m)).2 = (Spec.step s.storage (.remove q m)).2 ∧
    (s.step (.remove q m)).1.storage = (Spec.step s.storage (.remove q m)).1 ∧
    (s.step (.remove q m)).1.cfg = s.cfg ∧ Inv (s.step (.remove q m)).1 := by
  obtain ⟨r1, r4⟩ := readOp_spec s hs
  have r2 := readOp_storage s
  have r3 := readOp_cfg s
  obtain ⟨s', e1, e2, e3, e4⟩ := removeHelper_spec s.readOp r1 (fun ha => r4 (r3 ▸ ha)) q m hm
  simp only [State.step, e1, Spec.step, Spec.remove, Spec.count, Spec.search]
  rw [r2] at e2 ⊢
  exact ⟨rfl, e2, e3.trans r3, e4⟩

theorem drop_refines (s : State) (hs : Inv s) (name : String) (hm : name ≠ "") :
    (s.step (.drop name)).2 = (Spec.step s.storage (.drop name)).2 ∧
    (s.step (.drop name)).1.storage = (Spec.step s.storage (.drop name)).1 ∧
    (s.step (.drop name)).1.cfg = s.cfg ∧ Inv (s.step (.drop name)).1 := by
  -- the model drops by removing with the measurement query; the Spec by removing with no query
  have hsel : selected (.meas (.cmp .eq (.str name))) (some name) = selected .noop (some name) :=
    funext fun p => (selected_measEq_some name p).trans (selected_noop_some name p).symm
  have hspec : Spec.step s.storage (.drop name) =
      Spec.step s.storage (.remove (.meas (.cmp .eq (.str name))) (some name)) := by
    simp only [Spec.step, Spec.drop, Spec.remove, Spec.count, Spec.search, hsel]
  rw [hspec]
  exact remove_refines s hs _ (some name) (by simpa using hm)

theorem removeAll_refines (s : State) (hs : Inv s) :
    (s.step .removeAll).2 = (Spec.step s.storage .removeAll).2 ∧
    (s.step .removeAll).1.storage = (Spec.step s.storage .removeAll).1 ∧
    (s.step .removeAll).1.cfg = s.cfg ∧ Inv (s.step .removeAll).1 := by
  have _ := hs  -- not needed: a reset establishes the invariant from any state
  obtain ⟨a, b, c⟩ := reset_spec s
  exact ⟨rfl, b, c, a⟩

theorem updRow_spec (cfg : Cfg) (u : Upd) (hok : ∀ p p', Good cfg p → upd u p = .ok p' → Good cfg p')
    (sel : Point → Bool) (p : Point) (hp : Good cfg p) :
    updRow cfg.norm u (p, sel p) = (specF u sel p).map (fun p1 => (p1, if p.eqv p1 then 0 else 1)) ∧
    ∀ p1, specF u sel p = .ok p1 → Good cfg p1 ∧ (p.eqv p1 = true → p1 = p) := by
  cases hs : sel p
  · simp [updRow, specF, hs, Except.map, pure, Except.pure, eqv_refl p hp.1, hp]
  · cases hu : upd u p with
    | error e => simp [updRow, specF, hs, hu, bind, Except.bind, Except.map]
    | ok p' =>
      have hp' : Good cfg p' := hok p p' hp hu
      cases he : p'.eqv p
      · have he' : p.eqv p' = false := (eqv_comm p p' hp.1 hp'.1).trans he
        simp [updRow, specF, hs, hu, he, he', hp'.2, hp', bind, Except.bind, Except.map, pure, Except.pure]
      · simp [updRow, specF, hs, hu, he, eqv_refl p hp.1, hp, bind, Except.bind, Except.map, pure, Except.pure]

theorem updateLoop_spec (cfg : Cfg) (u : Upd)
    (hok : ∀ p p', Good cfg p → upd u p = .ok p' → Good cfg p') (sel : Point → Bool) (l : List Point)
    (hg : ∀ p ∈ l, Good cfg p) :
    State.updateLoop cfg.norm u (l.map (fun p => (p, sel p))) =
      (l.mapM (specF u sel)).map (fun db' => (db', (List.zip l db').countP (fun pp => !(pp.1.eqv pp.2)))) ∧
    ∀ db', l.mapM (specF u sel) = .ok db' → (∀ p ∈ db', Good cfg p) ∧
      ((List.zip l db').countP (fun pp => !(pp.1.eqv pp.2)) = 0 → db' = l) := by
  induction l with
  | nil =>
    refine ⟨rfl, fun db' h => ?_⟩
    cases h
    exact ⟨nofun, fun _ => rfl⟩
  | cons p t ih =>
    obtain ⟨hrow, hp1⟩ := updRow_spec cfg u hok sel p (hg p List.mem_cons_self)
    obtain ⟨ih1, ih2⟩ := ih fun q hq => hg q (List.mem_cons_of_mem _ hq)
    rw [List.map_cons, updateLoop_cons, hrow, ih1, List.mapM_cons]
    cases h1 : specF u sel p with
    | error e => exact ⟨rfl, nofun⟩
    | ok p1 =>
      obtain ⟨r2, r3⟩ := hp1 p1 h1
      cases ht : t.mapM (specF u sel) with
      | error e => exact ⟨rfl, nofun⟩
      | ok db' =>
        obtain ⟨i2, i3⟩ := ih2 db' ht
        refine ⟨?_, fun db'' h => ?_⟩
        · simp only [Except.map, bind, Except.bind, pure, Except.pure, List.zip_cons_cons, List.countP_cons]
          cases p.eqv p1 <;> rfl
        · cases h
          refine ⟨List.forall_mem_cons.mpr ⟨r2, i2⟩, fun h => ?_⟩
          rw [List.zip_cons_cons, List.countP_cons] at h
          cases he : p.eqv p1
          · simp only [he, Bool.not_false, if_true] at h
            omega
          · simp only [he, Bool.not_true, Bool.false_eq_true, if_false, Nat.add_zero] at h
            rw [r3 he, i3 h]

theorem mapM_specF_none (u : Upd) (sel : Point → Bool) (l : List Point) (h : ∀ p ∈ l, sel p = false) :
    l.mapM (specF u sel) = .ok l := by
  have := mapM_ok (specF u sel) id l fun p hp => by rw [specF, h p hp]; rfl
  rwa [List.map_id] at this

/-- the scan path's flag of a row, for a query or for "every point of the measurement": the function `State.updateSel`
    (Model/DB.lean) maps over storage in its `let scan`, copied; `updateSel_eq` (`rfl`) ties the two -/
def updFlag (all : Bool) (q : Query) (m : Option String) (p : Point) : Except Exc Bool :=
  if all then (match effMeas m with
               | some name => pure (p.meas == name)
               | none => pure true)
  else State.scanSel q m p

/-- the `let scan` of `State.updateSel`, copied; tied by `updateSel_eq` (`rfl`) -/
def scanRows (s : State) (all : Bool) (q : Query) (m : Option String) :
    Except Exc (Option (List (Point × Bool))) := do
  let flags ← s.storage.mapM (updFlag all q m)
  pure (some (s.storage.zip flags))

theorem updateSel_eq (s : State) (all : Bool) (q : Query) (m : Option String) :
    s.updateSel all q m =
      (if !all && s.index.valid && exact q then do
        let items ← s.indexSearch q m
        if items.isEmpty then return none
        if items.length == s.index.numItems then scanRows s all q m
        else pure (some (s.storage.zipIdx.map (fun pi => (pi.1, items.contains pi.2))))
      else scanRows s all q m) := rfl

theorem updFlag_eq (all : Bool) (q : Query) (m : Option String) (hm : m ≠ some "") (p : Point) :
    updFlag all q m p = pure (selected (if all then .noop else q) m p) := by
  unfold updFlag
  cases all
  · exact scanSel_eq q m hm p
  · rw [effMeas_of_ne m hm]
    cases m with
    | none => simp [selected_none, sem]
    | some name => simp [selected_noop_some]

theorem scanRows_eq (s : State) (all : Bool) (q : Query) (m : Option String) (hm : m ≠ some "") :
    scanRows s all q m = .ok (some (s.storage.map (fun p => (p, selected (if all then .noop else q) m p)))) := by
  rw [scanRows, funext (updFlag_eq all q m hm), List.mapM_pure, ← rows_scan]; rfl

theorem updateSel_spec (s : State) (hs : Inv s) (all : Bool) (q : Query) (m : Option String) (hm : m ≠ some "") :
    (s.updateSel all q m = .ok none ∧ ∀ p ∈ s.storage, selected (if all then .noop else q) m p = false) ∨
    s.updateSel all q m =
      .ok (some (s.storage.map (fun p => (p, selected (if all then .noop else q) m p)))) := by
  rw [updateSel_eq, scanRows_eq s all q m hm]
  cases all
  · by_cases h : (s.index.valid && exact q) = true
    · obtain ⟨items, hi, -, hc⟩ := indexPath_cases s hs q m hm h
      simp only [Bool.not_false, Bool.true_and, h, if_true, hi, bind, Except.bind, pure, Except.pure,
        Bool.false_eq_true, if_false]
      rcases hc with ⟨h1, h0⟩ | ⟨h1, h2, -⟩ | ⟨h1, h2, hrows⟩
      · refine .inl ⟨by rw [if_pos h1], fun p hp => ?_⟩
        simpa using List.filter_eq_nil_iff.mp (List.eq_nil_of_length_eq_zero h0) p hp
      · simp only [h1, h2, Bool.false_eq_true, if_false, if_true, or_true]
      · simp only [h1, h2, Bool.false_eq_true, if_false, hrows Prod.mk, or_true]
    · exact .inr (by rw [Bool.not_false, Bool.true_and, if_neg h])
  · exact .inr rfl

theorem updateHelper_spec (s : State) (hs : Inv s) (all : Bool) (q : Query) (u : Upd) (m : Option String)
    (hok : OpOK s.cfg (.update all q u m)) (hm : m ≠ some "") :
    (s.updateHelper all q u m).2 = (Spec.step s.storage (.update all q u m)).2 ∧
    (s.updateHelper all q u m).1.storage = (Spec.step s.storage (.update all q u m)).1 ∧
    (s.updateHelper all q u m).1.cfg = s.cfg ∧ Inv (s.updateHelper all q u m).1 := by
  simp only [Spec.step, State.updateHelper]
  by_cases he : updEmpty u = true
  · rw [if_pos he, if_pos he]
    exact ⟨rfl, rfl, rfl, hs⟩
  rw [if_neg he, if_neg he, update_eq]
  rcases updateSel_spec s hs all q m hm with ⟨h1, h2⟩ | h1
  · -- nothing selected: the Spec maps every point to itself and counts nothing
    rw [h1, mapM_specF_none u _ _ h2]
    simpa only [bind, Except.bind, pure, Except.pure, countP_self _ hs.wfPoint, true_and] using hs
  rw [h1]
  dsimp only
  obtain ⟨hl, hgood⟩ := updateLoop_spec s.cfg u hok (selected (if all = true then Query.noop else q) m) _ hs.good
  rw [hl]
  cases hmm : s.storage.mapM (specF u (selected (if all = true then Query.noop else q) m)) with
  | error e => exact ⟨rfl, rfl, rfl, hs⟩
  | ok db' =>
    obtain ⟨l2, l3⟩ := hgood db' hmm
    simp only [Except.map, bind, Except.bind, pure, Except.pure]
    by_cases hc : (List.countP (fun pp => !pp.1.eqv pp.2) (s.storage.zip db') == 0) = true
    · -- nothing changed: the state stays, and the Spec's new contents are the old ones
      rw [if_pos hc]
      exact ⟨by rw [eq_of_beq hc], (l3 (eq_of_beq hc)).symm, rfl, hs⟩
    · rw [if_neg hc]
      refine ⟨rfl, rfl, rfl, l2, ?_⟩
      cases ha : s.cfg.autoIndex
      · exact fun hv => nomatch hv
      · exact fun _ => represents_build db' fun p hp => (l2 p hp).1

theorem update_refines (s : State) (hs : Inv s) (all : Bool) (q : Query) (u : Upd) (m : Option String)
    (hok : OpOK s.cfg (.update all q u m)) (hm : m ≠ some "") :
    (s.step (.update all q u m)).2 = (Spec.step s.storage (.update all q u m)).2 ∧
    (s.step (.update all q u m)).1.storage = (Spec.step s.storage (.update all q u m)).1 ∧
    (s.step (.update all q u m)).1.cfg = s.cfg ∧ Inv (s.step (.update all q u m)).1 := by
  have r1 := (readOp_spec s hs).1
  have r2 := readOp_storage s
  have r3 := readOp_cfg s
  have h := updateHelper_spec s.readOp r1 all q u m (r3 ▸ hok) hm
  rw [r2, r3] at h
  exact h

end Writes
open Writes

theorem step_write_refines (s : State) (hs : Inv s) (op : Op) (hw : isRead op = false)
    (hok : OpOK s.cfg op) (hm : MeasOK op) :
    (s.step op).2 = (Spec.step s.storage op).2 ∧
    (s.step op).1.storage = (Spec.step s.storage op).1 ∧ (s.step op).1.cfg = s.cfg ∧ Inv (s.step op).1 := by
  cases op with
  | insert pts m => exact Writes.insert_refines s hs pts m hok hm
  | remove q m => exact Writes.remove_refines s hs q m hm
  | drop name => exact Writes.drop_refines s hs name hm
  | removeAll => exact Writes.removeAll_refines s hs
  | update all q u m => exact Writes.update_refines s hs all q u m hok hm
  | _ => simp [isRead] at hw

end TinyFlux.Model
