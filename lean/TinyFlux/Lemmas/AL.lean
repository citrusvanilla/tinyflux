import TinyFlux.Model.AL
/-! Association lists. `lookupAL` is core's `List.lookup` (`lookupAL_eq_lookup`), so most facts about it come from there;
    the facts stated for `List.lookup` itself (a point's tag and field dicts are read with it) are at the end. -/
namespace TinyFlux.Model

section AL
variable {K V : Type} [BEq K] [LawfulBEq K]

theorem lookupAL_eq_lookup (k : K) (l : AL K V) : lookupAL k l = l.lookup k := by
  induction l with
  | nil => rfl
  | cons h t ih =>
    obtain ⟨k', v⟩ := h
    rw [lookupAL, List.lookup_cons, ih, Bool.beq_comm (a := k')]
    cases k == k' <;> rfl

omit [BEq K] [LawfulBEq K] in
theorem mem_keysAL_iff (l : AL K V) (k : K) : k ∈ keysAL l ↔ ∃ v, (k, v) ∈ l := by
  simp [keysAL]

theorem lookupAL_isSome (k : K) (l : AL K V) : (lookupAL k l).isSome = true ↔ k ∈ keysAL l := by
  simp [lookupAL_eq_lookup, keysAL]

theorem lookupAL_none_of_not_mem (k : K) (l : AL K V) (h : k ∉ keysAL l) : lookupAL k l = none := by
  rw [← Option.not_isSome_iff_eq_none, lookupAL_isSome]
  exact h

theorem mem_of_lookupAL (l : AL K V) (k : K) (v : V) (hl : lookupAL k l = some v) : (k, v) ∈ l := by
  rw [lookupAL_eq_lookup] at hl
  obtain ⟨l₁, l₂, rfl, _⟩ := List.lookup_eq_some_iff.mp hl
  simp

theorem lookupAL_of_mem (l : AL K V) (h : (keysAL l).Nodup) (k : K) (v : V) (hm : (k, v) ∈ l) :
    lookupAL k l = some v := by
  rw [lookupAL_eq_lookup, List.lookup_eq_some_iff]
  obtain ⟨l₁, l₂, rfl⟩ := List.append_of_mem hm
  refine ⟨l₁, l₂, rfl, fun p hp => ?_⟩
  simp only [keysAL, List.map_append, List.map_cons, List.nodup_append, List.mem_map, List.mem_cons] at h
  simp only [bne_iff_ne, ne_eq]
  exact fun e => h.2.2 p.1 ⟨p, hp, rfl⟩ k (Or.inl rfl) e.symm

theorem lookupAL_alterAL (k k' : K) (d : V) (f : V → V) (l : AL K V) :
    lookupAL k' (alterAL k d f l) = if k == k' then some (f ((lookupAL k l).getD d)) else lookupAL k' l := by
  induction l with
  | nil => simp [alterAL, lookupAL]
  | cons x t ih =>
    obtain ⟨k0, v⟩ := x
    simp only [alterAL]
    by_cases h : k0 = k
    · subst h
      by_cases h2 : k0 = k' <;> simp [lookupAL, h2]
    · have hb : (k0 == k) = false := by simpa using h
      simp only [hb, Bool.false_eq_true, if_false, lookupAL, ih]
      by_cases h2 : k0 = k'
      · subst h2
        have : ¬ k = k0 := fun e => h e.symm
        simp [this]
      · simp [h2]

theorem lookupAL_alterAL_self (k : K) (d : V) (f : V → V) (l : AL K V) :
    lookupAL k (alterAL k d f l) = some (f ((lookupAL k l).getD d)) := by
  rw [lookupAL_alterAL, beq_self_eq_true, if_pos rfl]

theorem lookupAL_alterAL_other (k k2 : K) (hne : k2 ≠ k) (d : V) (f : V → V) (l : AL K V) :
    lookupAL k2 (alterAL k d f l) = lookupAL k2 l := by
  rw [lookupAL_alterAL, if_neg]
  simpa using fun e => hne e.symm

theorem keys_alterAL (k : K) (d : V) (f : V → V) (l : AL K V) :
    keysAL (alterAL k d f l) = if k ∈ keysAL l then keysAL l else keysAL l ++ [k] := by
  induction l with
  | nil => rfl
  | cons h t ih =>
    obtain ⟨k', v⟩ := h
    by_cases hk : k' = k
    · subst hk; simp [alterAL, keysAL]
    · have h1 : (k' == k) = false := by simpa using hk
      have h2 : ¬ k = k' := fun e => hk e.symm
      have e : keysAL (alterAL k d f ((k', v) :: t)) = k' :: keysAL (alterAL k d f t) := by
        simp [alterAL, h1, keysAL]
      have hc : keysAL ((k', v) :: t) = k' :: keysAL t := rfl
      rw [e, ih, hc]
      by_cases hm : k ∈ keysAL t
      · rw [if_pos hm, if_pos (List.mem_cons_of_mem _ hm)]
      · rw [if_neg hm, if_neg (fun h => (List.mem_cons.mp h).elim h2 hm)]; rfl

theorem mem_keysAL_alterAL (k : K) (d : V) (f : V → V) (l : AL K V) (k' : K) :
    k' ∈ keysAL (alterAL k d f l) ↔ k' ∈ keysAL l ∨ k' = k := by
  rw [keys_alterAL]
  split
  · rename_i hk
    exact ⟨Or.inl, fun h => h.elim id (fun e => e ▸ hk)⟩
  · rw [List.mem_append, List.mem_singleton]

theorem nodup_keys_alterAL (k : K) (d : V) (f : V → V) (l : AL K V)
    (h : (keysAL l).Nodup) : (keysAL (alterAL k d f l)).Nodup := by
  rw [keys_alterAL]
  split
  · exact h
  · rename_i hk
    refine List.nodup_append.mpr ⟨h, by simp, fun a ha b hb e => hk ?_⟩
    rwa [← List.mem_singleton.mp hb, ← e]

omit [LawfulBEq K] in
theorem alterAL_all (Q : V → Prop) (k : K) (d : V) (f : V → V) (hd : Q (f d)) (hf : ∀ v, Q v → Q (f v))
    (l : AL K V) (hl : ∀ kv ∈ l, Q kv.2) : ∀ kv ∈ alterAL k d f l, Q kv.2 := by
  induction l with
  | nil =>
    intro kv hkv
    rw [alterAL, List.mem_singleton] at hkv
    exact hkv ▸ hd
  | cons hd' t ih =>
    obtain ⟨k', v⟩ := hd'
    intro kv hkv
    simp only [alterAL] at hkv
    split at hkv
    · cases List.mem_cons.mp hkv with
      | inl e => subst e; exact hf v (hl _ List.mem_cons_self)
      | inr e => exact hl kv (List.mem_cons_of_mem _ e)
    · cases List.mem_cons.mp hkv with
      | inl e => subst e; exact hl _ List.mem_cons_self
      | inr e => exact ih (fun kv h => hl kv (List.mem_cons_of_mem _ h)) kv e

omit [LawfulBEq K] in
theorem alterAL_of_lookup_none (k : K) (dflt : V) (f : V → V) (d : AL K V)
    (h : lookupAL k d = none) : alterAL k dflt f d = d ++ [(k, f dflt)] := by
  induction d with
  | nil => rfl
  | cons hd t ih =>
    obtain ⟨k', v⟩ := hd
    by_cases hk : (k' == k) = true
    · simp [lookupAL, hk] at h
    · simp only [lookupAL, hk, Bool.false_eq_true, ↓reduceIte] at h
      simp only [alterAL, hk, Bool.false_eq_true, ↓reduceIte, ih h, List.cons_append]

theorem foldl_alterAL_fresh (l : AL K V) : ∀ acc : AL K V, (keysAL (acc ++ l)).Nodup →
    l.foldl (fun d kv => alterAL kv.1 kv.2 (fun _ => kv.2) d) acc = acc ++ l := by
  induction l with
  | nil => intro acc _; exact (List.append_nil acc).symm
  | cons a t ih =>
    intro acc h
    rw [keysAL, List.map_append, List.map_cons] at h
    have hf : a.1 ∉ keysAL acc := fun hc => (List.nodup_append.mp h).2.2 _ hc _ List.mem_cons_self rfl
    rw [List.foldl_cons, alterAL_of_lookup_none _ _ _ _ (lookupAL_none_of_not_mem _ _ hf), ih, List.append_assoc]
    · rfl
    · rw [List.append_assoc, keysAL, List.map_append]
      exact h

end AL

theorem lookupAL_append {K V : Type} [BEq K] (k : K) (a b : AL K V) :
    lookupAL k (a ++ b) = (lookupAL k a).orElse (fun _ => lookupAL k b) := by
  induction a with
  | nil => simp [lookupAL]
  | cons hd t ih =>
    obtain ⟨k', v⟩ := hd
    by_cases hk : (k' == k) = true
    · simp [lookupAL, hk]
    · simp [lookupAL, hk, ih]

theorem alterAL_ne_nil {K V : Type} [BEq K] (k : K) (d : V) (f : V → V) (l : AL K V) : alterAL k d f l ≠ [] := by
  cases l with
  | nil => simp [alterAL]
  | cons hd t =>
    obtain ⟨k', v⟩ := hd
    simp only [alterAL]
    split <;> simp

theorem alterAL_append_self {K V : Type} [BEq K] [LawfulBEq K] (k : K) (dflt x : V) (f : V → V) (d : AL K V)
    (h : lookupAL k d = none) : alterAL k dflt f (d ++ [(k, x)]) = d ++ [(k, f x)] := by
  induction d with
  | nil => simp [alterAL]
  | cons hd t ih =>
    obtain ⟨k', v⟩ := hd
    by_cases hk : (k' == k) = true
    · simp [lookupAL, hk] at h
    · simp only [lookupAL, hk, Bool.false_eq_true, ↓reduceIte] at h
      simp only [List.cons_append, alterAL, hk, Bool.false_eq_true, ↓reduceIte, ih h]

theorem lookup_isSome_iff {β : Type} (k : String) (d : List (String × β)) :
    (d.lookup k).isSome = true ↔ k ∈ d.map (·.1) := by
  simp

theorem exists_lookup_iff_mem_keys {β : Type} (k : String) (d : List (String × β)) :
    (∃ v, d.lookup k = some v) ↔ k ∈ d.map (·.1) := by
  rw [← lookup_isSome_iff, Option.isSome_iff_exists]

theorem lookup_iff_mem {β : Type} (d : List (String × β)) (h : (d.map (·.1)).Nodup) (k : String) (v : β) :
    d.lookup k = some v ↔ (k, v) ∈ d := by
  rw [← lookupAL_eq_lookup]
  exact ⟨mem_of_lookupAL d k v, lookupAL_of_mem d h k v⟩

theorem filter_key_lookup {A B : Type} [BEq A] [LawfulBEq A] (xs : List (A × B))
    (hnd : (xs.map (·.1)).Nodup) (k : A) :
    xs.filter (fun x => x.1 == k) = ((xs.lookup k).map (fun b => (k, b))).toList := by
  induction xs with
  | nil => rfl
  | cons hd t ih =>
    obtain ⟨a, b⟩ := hd
    simp only [List.map_cons, List.nodup_cons] at hnd
    rw [List.filter_cons, List.lookup_cons]
    by_cases h : a = k
    · subst h
      have : t.filter (fun x => x.1 == a) = [] := by
        rw [List.filter_eq_nil_iff]
        intro x hx hxa
        have : x.1 = a := by simpa using hxa
        exact hnd.1 (this ▸ List.mem_map_of_mem hx)
      simp [this]
    · have h1 : (a == k) = false := by simpa using h
      have h2 : (k == a) = false := by simpa using fun e => h e.symm
      simp [h1, h2, ih hnd.2]

/-- the shape in which `scanRemoveLoop` grows its renumbering -/
theorem lookup_ite_cons_ne {c : Prop} [Decidable c] {n i x : Nat} (u : List (Nat × Nat)) (h : n ≠ i) :
    (if c then (i, x) :: u else u).lookup n = u.lookup n := by
  split
  · rw [List.lookup_cons, show (n == i) = false by simpa using h]
  · rfl

end TinyFlux.Model
