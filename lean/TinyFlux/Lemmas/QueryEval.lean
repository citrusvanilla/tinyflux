import TinyFlux.Model.Query
/-! Evaluation of a query object (model of queries.py) equals the documented meaning. -/
namespace TinyFlux.Model
open TinyFlux.Spec

theorem pyOp_pyCmp (c : Cmp) (a b : PyV) :
    pyOp c a b = .ok (pyCmp c a b) ∨ (pyOp c a b = .error .type ∧ pyCmp c a b = false) := by
  -- the two definitions have the same six clauses; only the last raises
  fun_cases pyCmp c a b
  case case6 => exact .inr ⟨by simp only [pyOp, *]; rfl, rfl⟩
  all_goals exact .inl (by simp only [pyOp, *]; rfl)

theorem testLeaf_cmp (c : Cmp) (rhs v : PyV) : testLeaf (.cmp c rhs) v = .ok (pyCmp c v rhs) := by
  rcases pyOp_pyCmp c v rhs with h | ⟨h, h'⟩
  · simp only [testLeaf, h]; rfl
  · simp only [testLeaf, h, h']; rfl

theorem callOn_map (g : PyV → Option PyV) (t : Leaf) (v : PyV) :
    callOn (.map g t) v = match g v with | some v' => callOn t v' | none => .ok false := by
  unfold callOn
  rw [resolveMaps]
  cases g v <;> rfl

theorem callOn_eq (l : Leaf) (v : PyV) : callOn l v = .ok (l.eval v) := by
  induction l generalizing v with
  | cmp c rhs => exact testLeaf_cmp c rhs v
  | «exists» => rfl
  | regex r => cases v <;> rfl
  | test f => rfl
  | map g t ih =>
    rw [callOn_map, Leaf.eval]
    cases g v
    · rfl
    · exact ih _

theorem eval_eq (q : Query) (p : Point) : eval q p = .ok (sem q p) := by
  induction q with
  | time l => exact callOn_eq l _
  | meas l => exact callOn_eq l _
  | tag k l =>
    simp only [eval, sem]
    cases p.tags.lookup k
    · rfl
    · exact callOn_eq l _
  | field k l =>
    simp only [eval, sem]
    cases p.fields.lookup k
    · rfl
    · exact callOn_eq l _
  | noop => rfl
  | not q ih => simp only [eval, sem, ih]; rfl
  | and q r ih1 ih2 => simp only [eval, sem, ih1, ih2]; rfl
  | or q r ih1 ih2 => simp only [eval, sem, ih1, ih2]; rfl

theorem _root_.TinyFlux.Spec.Leaf.eval_cmp_time (c : Cmp) (x t : Int) :
    (Leaf.cmp c (.time x)).eval (.time t) = ordCmp c (decide (t < x)) (t == x) := by
  have beq : (PyV.time t == PyV.time x) = (t == x) := decide_eq_decide.mpr ⟨PyV.time.inj, congrArg _⟩
  cases c with
  | eq => exact beq
  | ne => exact congrArg not beq
  | _ => rfl

end TinyFlux.Model
