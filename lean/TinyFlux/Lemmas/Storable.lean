import TinyFlux.Lemmas.SpecOps
/-! When the data of an operation is storable (`OpOK`): updates keep points dict-shaped, so for a storage
    that keeps points as they are (`norm = id`) every update is admissible. Imported only by the witness files
    (`Props/Witness/*`, `Props/C08Witness.lean`). Declares the instance `Decidable (WFPoint p)`, which makes `decide`
    applicable to `WFPoint` wherever this file is imported. -/
namespace TinyFlux.Model
open TinyFlux.Spec

instance (p : Point) : Decidable (WFPoint p) := inferInstanceAs (Decidable (_ ∧ _))

theorem wfPoint_upd {u : Upd} {p p' : Point} (h : upd u p = .ok p') (hp : WFPoint p) : WFPoint p' := by
  obtain ⟨_, _, ht, hf⟩ := tags_fields_of_upd h
  rw [WFPoint, ht, hf]
  exact ⟨nodup_keys_eraseKeys _ _ (nodup_keys_dictUpdate _ _ hp.1),
    nodup_keys_eraseKeys _ _ (nodup_keys_dictUpdate _ _ hp.2)⟩

theorem opOK_insert_none (cfg : Cfg) (pts : List (Option Point)) :
    OpOK cfg (.insert pts none) ↔ ∀ p, some p ∈ pts → Good cfg p := Iff.rfl

theorem good_iff_of_norm_id {cfg : Cfg} (h : cfg.norm = id) (p : Point) : Good cfg p ↔ WFPoint p := by
  simp [Good, h]

theorem opOK_update_of_norm_id {cfg : Cfg} (h : cfg.norm = id) (all : Bool) (q : Query) (u : Upd)
    (m : Option String) : OpOK cfg (.update all q u m) := fun _ p' hp hu =>
  (good_iff_of_norm_id h p').mpr (wfPoint_upd hu hp.1)

end TinyFlux.Model
