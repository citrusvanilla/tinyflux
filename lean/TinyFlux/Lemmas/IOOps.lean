import TinyFlux.Lemmas.Refinement
import TinyFlux.Lemmas.IOLemmas
import TinyFlux.Model.IOSteps
/-!
# End to end: the I/O calls of every API operation, on every reachable state

`opSteps s flush op` (Model/IOSteps.lean) is the list of I/O calls the operation `op` makes in state `s`
(rows = the stored points; validated against the calls recorded on the real code). `op_io` joins
the database model (`Model/DB.lean`: what the operation does to the contents) with the I/O model
(`Model/IO.lean`: what the calls do to the file); the end-to-end theorems of C04, C12, C13 and C15 read
their statements off it. What it joins: the step list of a remove / update has one of three atomic shapes
(`Shape`), an insert appends exactly the rows it stores, a read only reads. Defines `FileOf` (the file that goes with a
database state) and `OldNewOrPrefix` (what an interrupted operation may leave). `Atomic`, `Shape` and the lemmas per
operation (`remove_shape`, `write_shape`, `opSteps_readOnly_of_isRead`, …) are in namespace `Model.IOOpsAux`.
-/
namespace TinyFlux.Model
open TinyFlux.Spec TinyFlux.Model.IO

namespace IOOpsAux

variable {R : Type}

/-- the calls of a remove / update (after the `read_op` part): a discarded temp file (no-op), a reset
    inside a temp-storage operation, or a rewrite — the last two only with a non-zero count -/
def Shape (flush : Bool) (X : List (Step Point)) (old new : List Point) (out : Out) : Prop :=
  (∃ L, X = L ++ [.tClose, .tUnlink] ∧ (∀ st ∈ L, st.safe = true) ∧ new = old) ∨
  (∃ rows scanned n, X = resetInTempSteps flush rows scanned ∧ new = [] ∧ out = .nat n ∧ n ≠ 0) ∨
  (∃ rows rb n, X = rewriteSteps flush rows rb ∧ new = newRows rows ∧ out = .nat n ∧ n ≠ 0)

theorem Shape.atomic {flush : Bool} {X : List (Step Point)} {old new : List Point} {out : Out}
    (h : Shape flush X old new out) : Atomic X old new := by
  rcases h with ⟨L, rfl, hL, rfl⟩ | ⟨rows, sc, n, rfl, rfl, _, _⟩ | ⟨rows, rb, n, rfl, rfl, _, _⟩
  · exact atomic_noop L _ (List.all_eq_true.mpr hL)
  · exact atomic_resetInTemp flush rows sc old
  · exact atomic_rewrite flush rows rb old

theorem Shape.no_mutation {flush : Bool} {X : List (Step Point)} {old new : List Point} {out : Out}
    (h : Shape flush X old new out) (hout : out = .nat 0 ∨ ∃ e, out = .err e) :
    ∀ st ∈ X, st.mutatesPrimary = false := by
  -- a reset or a rewrite reports a non-zero count
  have hnz : ∀ n, out = .nat n → n ≠ 0 → False := by
    rintro n rfl hn
    rcases hout with h | ⟨e, h⟩
    · exact hn (Out.nat.inj h)
    · cases h
  rcases h with ⟨L, rfl, hL, _⟩ | ⟨_, _, n, _, _, ho, hn⟩ | ⟨_, _, n, _, _, ho, hn⟩
  · have hall := safe_append_cleanup (List.all_eq_true.mpr hL)
    exact fun st hst => Step.not_mutates_of_safe (List.all_eq_true.mp hall st hst)
  · exact (hnz n ho hn).elim
  · exact (hnz n ho hn).elim

theorem shape_noopRewrite (flush : Bool) (rows : List (Option Point)) (scanned : Bool) (old : List Point)
    (out : Out) : Shape flush (noopRewriteSteps flush rows scanned) old old out :=
  Or.inl ⟨_, rfl, List.all_eq_true.mp (scannedPart_safe flush rows scanned), rfl⟩

theorem shape_noopStream (flush : Bool) (stream : List (Step Point)) (hs : stream.all Step.safe = true)
    (old : List Point) (out : Out) :
    Shape flush ([.tCreate, .pSeek0] ++ stream ++ [.tClose, .tUnlink]) old old out :=
  Or.inl ⟨[.tCreate, .pSeek0] ++ stream, rfl, List.all_eq_true.mp (by exact hs), rfl⟩

/-- the rows of the streaming loop of a remove: `none` = dropped -/
def selRows (sel : Point → Bool) (l : List Point) : List (Option Point) :=
  l.map (fun p => if sel p then none else some p)

theorem newRows_selRows (sel : Point → Bool) (l : List Point) :
    newRows (selRows sel l) = l.filter (fun p => !sel p) := by
  induction l with
  | nil => rfl
  | cons x t ih =>
    simp only [newRows, selRows] at ih ⊢
    cases h : sel x <;> simp [h, ih]

theorem selRows_allSome (sel : Point → Bool) (l : List Point) :
    (selRows sel l).all Option.isSome = true ↔ ∀ p ∈ l, sel p = false := by
  simp only [selRows, List.all_map, List.all_eq_true, Function.comp_def]
  exact forall₂_congr fun p _ => by cases sel p <;> simp

theorem selRows_allNone (sel : Point → Bool) (l : List Point) :
    (selRows sel l).all Option.isNone = true ↔ ∀ p ∈ l, sel p = true := by
  simp only [selRows, List.all_map, List.all_eq_true, Function.comp_def]
  exact forall₂_congr fun p _ => by cases sel p <;> simp

theorem shape_rows (flush : Bool) (sel : Point → Bool) (l : List Point) :
    Shape flush
      (if (selRows sel l).all Option.isSome then noopRewriteSteps flush (selRows sel l) true
       else if (selRows sel l).all Option.isNone then resetInTempSteps flush (selRows sel l) true
       else rewriteSteps flush (selRows sel l) false)
      l (l.filter (fun p => !sel p)) (.nat (l.filter sel).length) := by
  by_cases h1 : (selRows sel l).all Option.isSome = true
  · rw [if_pos h1]
    have h := (selRows_allSome sel l).mp h1
    have : l.filter (fun p => !sel p) = l := List.filter_eq_self.mpr (fun p hp => by simp [h p hp])
    rw [this]
    exact shape_noopRewrite flush _ true l _
  · rw [if_neg h1]
    have hn : (l.filter sel).length ≠ 0 := fun h0 =>
      h1 ((selRows_allSome sel l).mpr fun p hp => by
        simpa using List.filter_eq_nil_iff.mp (List.eq_nil_of_length_eq_zero h0) p hp)
    by_cases h2 : (selRows sel l).all Option.isNone = true
    · rw [if_pos h2]
      have h := (selRows_allNone sel l).mp h2
      exact Or.inr (Or.inl ⟨_, _, _, rfl,
        List.filter_eq_nil_iff.mpr (fun p hp => by simp [h p hp]), rfl, hn⟩)
    · rw [if_neg h2]
      exact Or.inr (Or.inr ⟨_, _, _, rfl, (newRows_selRows sel l).symm, rfl, hn⟩)

theorem remove_shape (s0 : State) (hs : Inv s0) (flush : Bool) (q : Query) (m : Option String)
    (hm : m ≠ some "") :
    ∃ X, removeSteps s0 flush q m = reindexSteps s0 ++ X ∧
      Shape flush X s0.storage (s0.storage.filter (fun p => !selected q m p))
        (.nat (s0.storage.filter (selected q m)).length) := by
  have r1 := (readOp_spec s0 hs).1
  refine ⟨_, rfl, ?_⟩
  rw [← readOp_storage s0]
  generalize s0.readOp = s at r1 ⊢
  by_cases h : (s.index.valid && exact q) = true
  · obtain ⟨items, hi, hcount, hc⟩ := Writes.indexPath_cases s r1 q m hm h
    rw [if_pos h, hi]
    dsimp only
    rcases hc with ⟨h1, h0⟩ | ⟨h1, h2, hall⟩ | ⟨h1, h2, hrows⟩
    · rw [if_pos h1, filter_not_of_none _ _ h0]
      exact shape_noopRewrite flush _ _ _ _
    · rw [if_neg (Bool.eq_false_iff.mp h1), if_pos h2]
      have hn : (s.storage.filter (selected q m)).length ≠ 0 := fun h0 =>
        Bool.eq_false_iff.mp h1 (List.isEmpty_iff_length_eq_zero.mpr (hcount.trans h0))
      exact Or.inr (Or.inl ⟨_, _, _, rfl, filter_not_of_all _ _ hall, rfl, hn⟩)
    · rw [if_neg (Bool.eq_false_iff.mp h1), if_neg (Bool.eq_false_iff.mp h2),
        hrows (fun p b => if b then none else some p)]
      exact shape_rows flush _ _
  · rw [if_neg h, Writes.mapM_scanSel _ q m hm]
    dsimp only
    rw [Writes.rows_scan, List.map_map]
    exact shape_rows flush _ _

theorem updateStream_cons (norm : Point → Point) (flush : Bool) (u : Upd) (pb : Point × Bool)
    (t : List (Point × Bool)) :
    updateStream norm flush u (pb :: t) =
      match Writes.updRow norm u pb with
      | .error _ => ([.pRead], false)
      | .ok r => (.pRead :: stageRow flush r.1 ++ (updateStream norm flush u t).1, (updateStream norm flush u t).2) := by
  obtain ⟨p, b⟩ := pb
  cases b
  · rfl
  · simp only [updateStream, Writes.updRow, if_true, bind, Except.bind]
    cases upd u p with
    | error e => rfl
    | ok p' => cases he : p'.eqv p <;> simp only [he, if_true, Bool.false_eq_true, if_false] <;> rfl

theorem updateStream_safe (norm : Point → Point) (flush : Bool) (u : Upd) (rows : List (Point × Bool)) :
    (updateStream norm flush u rows).1.all Step.safe = true := by
  induction rows with
  | nil => rfl
  | cons pb t ih =>
    rw [updateStream_cons]
    cases Writes.updRow norm u pb with
    | error e => rfl
    | ok r =>
      simp only [List.all_cons, List.all_append, stageRow_safe, ih]
      rfl

theorem updateStream_ok (norm : Point → Point) (flush : Bool) (u : Upd) (rows : List (Point × Bool)) :
    ∀ l c, State.updateLoop norm u rows = .ok (l, c) →
      updateStream norm flush u rows = (streamSteps flush (l.map some), true) := by
  induction rows with
  | nil =>
    intro l c h
    cases h
    rfl
  | cons pb t ih =>
    intro l c h
    rw [Writes.updateLoop_cons] at h
    rw [updateStream_cons]
    cases hr : Writes.updRow norm u pb with
    | error e => rw [hr] at h; cases h
    | ok r =>
      cases ht : State.updateLoop norm u t with
      | error e => rw [hr, ht] at h; cases h
      | ok lc =>
        rw [hr, ht] at h
        cases h
        simp only [ih lc.1 lc.2 ht, List.map_cons, streamSteps]

theorem newRows_map_some (l : List Point) : newRows (l.map some) = l := by
  simp [newRows, List.filterMap_map]

theorem update_shape (s0 : State) (flush : Bool) (all : Bool) (q : Query) (u : Upd) (m : Option String) :
    ∃ X, updateSteps s0 flush all q u m = reindexSteps s0 ++ X ∧
      Shape flush X s0.storage (s0.readOp.updateHelper all q u m).1.storage
        (s0.readOp.updateHelper all q u m).2 := by
  refine ⟨_, rfl, ?_⟩
  rw [← readOp_storage s0]
  generalize s0.readOp = s
  unfold State.updateHelper
  by_cases he : updEmpty u = true
  · simp only [he, if_true]
    exact shape_noopRewrite flush [] false _ _
  · simp only [he, Bool.false_eq_true, if_false]
    cases hsel : s.updateSel all q m with
    | error e => exact shape_noopRewrite flush [] false _ _
    | ok o =>
      cases o with
      | none => exact shape_noopRewrite flush [] false _ _
      | some rows =>
        dsimp only
        cases hl : State.updateLoop s.cfg.norm u rows with
        | error e =>
          have hsafe := updateStream_safe s.cfg.norm flush u rows
          rcases hst : updateStream s.cfg.norm flush u rows with ⟨stream, ok⟩
          rw [hst] at hsafe
          dsimp only
          split <;> exact shape_noopStream flush stream hsafe _ _
        | ok lc =>
          obtain ⟨l, c⟩ := lc
          rw [updateStream_ok _ flush _ _ l c hl]
          dsimp only
          by_cases hc : (c == 0) = true
          · simp only [hc, Bool.not_true, Bool.false_eq_true, if_false, if_true]
            exact shape_noopStream flush _ (streamSteps_safe flush _) _ _
          · simp only [hc, Bool.not_true, Bool.false_eq_true, if_false]
            exact Or.inr (Or.inr ⟨l.map some, s.cfg.autoIndex, c, rfl, (newRows_map_some l).symm, rfl,
              by simpa using hc⟩)

theorem reindexSteps_readOnly (s : State) : (reindexSteps s).all readOnly = true := by
  unfold reindexSteps
  split <;> rfl

theorem write_shape (s : State) (hs : Inv s) (flush : Bool) (op : Op)
    (hop : (∃ q m, op = .remove q m) ∨ (∃ n, op = .drop n) ∨ (∃ a q u m, op = .update a q u m))
    (hm : MeasOK op) :
    ∃ X, opSteps s flush op = reindexSteps s ++ X ∧
      Shape flush X s.storage (s.step op).1.storage (s.step op).2 := by
  rcases hop with ⟨q, m, rfl⟩ | ⟨n, rfl⟩ | ⟨a, q, u, m, rfl⟩
  · obtain ⟨h2, h1, -, -⟩ := Writes.remove_refines s hs q m hm
    rw [h1, h2]
    exact remove_shape s hs flush q m hm
  · -- dropping a measurement is the remove with the measurement query
    have hn : some n ≠ some "" := by simpa [MeasOK] using hm
    obtain ⟨h2, h1, -, -⟩ := Writes.remove_refines s hs (.meas (.cmp .eq (.str n))) (some n) hn
    rw [show s.step (.drop n) = s.step (.remove (.meas (.cmp .eq (.str n))) (some n)) from rfl, h1, h2]
    exact remove_shape s hs flush _ (some n) hn
  · exact update_shape s flush a q u m

theorem insertLoop_storage (m : Option String) (pts : List (Option Point)) :
    ∀ (s : State) (c : Nat),
      (State.insertLoop s m pts c).1.storage = s.storage ++ insertedRows s.cfg m pts := by
  induction pts with
  | nil => intro s c; simp [State.insertLoop, insertedRows]
  | cons x t ih =>
    intro s c
    cases x with
    | none => simp [State.insertLoop, insertedRows]
    | some p =>
      rw [Writes.insertLoop_cons, ih, Writes.insertStep_storage, Writes.insertStep_cfg, List.append_assoc]
      rfl

theorem step_insert_storage (s : State) (pts : List (Option Point)) (m : Option String) :
    (s.step (.insert pts m)).1.storage = s.storage ++ insertedRows s.cfg m pts := by
  have := insertLoop_storage m pts s 0
  simp only [State.step, State.insertOp]
  generalize State.insertLoop s m pts 0 = r at *
  obtain ⟨s', c, e⟩ := r
  simp only [apply_ite State.storage, ite_self]
  exact this

theorem opSteps_readOnly_of_isRead (s : State) (flush : Bool) (op : Op) (hr : isRead op = true) :
    (opSteps s flush op).all readOnly = true := by
  have hscan : (scanSteps : List (Step RowId)).all readOnly = true := rfl
  -- a read operation's calls: the reindex read, then a scan or nothing
  cases op <;> simp [isRead] at hr <;>
    simp only [opSteps, List.all_append, apply_ite (List.all · readOnly), reindexSteps_readOnly, hscan,
      List.all_nil, ite_self, Bool.and_self]

theorem op_atomic (s : State) (hs : Inv s) (op : Op) (hm : MeasOK op)
    (hni : ∀ pts m, op ≠ .insert pts m) :
    Atomic (opSteps s true op) s.storage (s.step op).1.storage := by
  by_cases hr : isRead op = true
  · rw [(step_read_refines s hs op hr hm).2.1]
    exact atomic_readOnly _ _ (opSteps_readOnly_of_isRead s true op hr)
  · have hw : ∀ (hop : (∃ q m, op = .remove q m) ∨ (∃ n, op = .drop n) ∨ (∃ a q u m, op = .update a q u m)),
        Atomic (opSteps s true op) s.storage (s.step op).1.storage := by
      intro hop
      obtain ⟨X, e, hX⟩ := write_shape s hs true op hop hm
      rw [e]
      exact atomic_readOnly_append _ _ _ _ (reindexSteps_readOnly s) hX.atomic
    cases op with
    | insert pts m => exact absurd rfl (hni pts m)
    | remove q m => exact hw (Or.inl ⟨q, m, rfl⟩)
    | drop n => exact hw (Or.inr (Or.inl ⟨n, rfl⟩))
    | update a q u m => exact hw (Or.inr (Or.inr ⟨a, q, u, m, rfl⟩))
    | removeAll => exact atomic_reset s.storage
    | _ => simp [isRead] at hr

end IOOpsAux

open IOOpsAux

/-- the file-system state that goes with a database state between operations (`flush_on_insert=True`):
    the file holds exactly the stored points, nothing is buffered, no temp file exists -/
def FileOf (s : State) (fs : FS Point) : Prop := fs.primary = s.storage ∧ Quiet fs

/-- what a crash or a failing call in the middle of `op` may leave in `x` (the file, or the file with what
    the handle still buffers): the old contents, the new contents, or for an insert the old contents plus a
    prefix of the new rows -/
def OldNewOrPrefix (s : State) (op : Op) (x : List Point) : Prop :=
  x = s.storage ∨ x = (s.step op).1.storage ∨
    ∃ pts m j, op = .insert pts m ∧ x = s.storage ++ (insertedRows s.cfg m pts).take j

/-- `OpOK` is not needed: neither the step lists nor the contents afterwards depend on the data being storable (the
    property statements carry it all the same). To go on with the next operation take `Inv (s.step op).1` from `step_refines` and the
    first conjunct as its `FileOf`; two `Holds` are joined by `holds_append`. Inserts flush (`true`): `FileOf`
    does not hold between unflushed inserts. -/
theorem op_io (s : State) (hs : Inv s) (op : Op) (hm : MeasOK op) (fs : FS Point) (hfs : FileOf s fs) :
    FileOf (s.step op).1 (run fs (opSteps s true op)) ∧
    Holds (fun y => OldNewOrPrefix s op y.primary ∧ OldNewOrPrefix s op (afterClose y)) fs
      (opSteps s true op) := by
  by_cases hins : ∃ pts m, op = .insert pts m
  · obtain ⟨pts, m, rfl⟩ := hins
    have c := (append_flush fs hfs.2.noPend (insertedRows s.cfg m pts)).1
    obtain ⟨h1, h2⟩ := append_flush_quiet fs hfs.2 (insertedRows s.cfg m pts)
    have a := (append_afterClose fs true (insertedRows s.cfg m pts)).1
    have h0 : afterClose fs = s.storage := by simp [afterClose, hfs.2.noPend, hfs.1]
    rw [h0] at a
    rw [hfs.1] at c h1
    refine ⟨⟨by rw [step_insert_storage]; exact h1, h2⟩, fun k => ⟨?_, ?_⟩⟩
    · obtain ⟨j, _, h⟩ := c k
      exact Or.inr (Or.inr ⟨pts, m, j, rfl, h⟩)
    · obtain ⟨j, _, h⟩ := a k
      exact Or.inr (Or.inr ⟨pts, m, j, rfl, h⟩)
  · obtain ⟨h, hk⟩ := op_atomic s hs op hm (fun pts m h => hins ⟨pts, m, h⟩) fs hfs.1 hfs.2
    refine ⟨h, fun k => ?_⟩
    -- nothing is buffered, so the file with the buffer is the file
    have hc : afterClose (run fs ((opSteps s true op).take k)) = (run fs ((opSteps s true op).take k)).primary := by
      rw [afterClose, (hk k).2, List.append_nil]
    show OldNewOrPrefix s op _ ∧ OldNewOrPrefix s op (afterClose _)
    rw [hc]
    exact ⟨(hk k).1.imp_right Or.inl, (hk k).1.imp_right Or.inl⟩

end TinyFlux.Model
