import TinyFlux.Lemmas.Getters
import TinyFlux.Lemmas.SpecOps
/-!
# The read operations of `database.py` return what the Spec says

On a state satisfying `Inv`: the index path (valid index, exact query: the positions found are the rows
selected) and the scan path give the Spec's one-liner over storage; `step_read_refines` collects the
operations. The measurement argument is not `""` (`MeasOK`).
-/
namespace TinyFlux.Model
open TinyFlux.Spec

/-- operations that never change storage -/
def isRead : Op → Bool
  | .insert .. | .remove .. | .drop .. | .removeAll | .update .. => false
  | _ => true

theorem spec_step_read (db : DB) (op : Op) (hr : isRead op = true) : (Spec.step db op).1 = db := by
  cases op <;> first | rfl | cases hr

theorem Inv.wfPoint {s : State} (hs : Inv s) : ∀ p ∈ s.storage, WFPoint p := fun p hp => (hs.good p hp).1

theorem inv_rebuild (s : State) (hs : Inv s) : Inv { s with index := Index.build s.storage } :=
  ⟨hs.good, fun _ => represents_build _ hs.wfPoint⟩

theorem readOp_storage (s : State) : s.readOp.storage = s.storage := by
  unfold State.readOp
  split <;> rfl

theorem readOp_cfg (s : State) : s.readOp.cfg = s.cfg := by
  unfold State.readOp
  split <;> rfl

theorem readOp_of_valid (s : State) (hv : s.index.valid = true) : s.readOp = s := by
  simp [State.readOp, hv]

theorem readOp_spec (s : State) (hs : Inv s) :
    Inv s.readOp ∧ (s.cfg.autoIndex = true → s.readOp.index.valid = true) := by
  refine ⟨?_, fun ha => ?_⟩
  · unfold State.readOp
    split
    · exact inv_rebuild s hs
    · exact hs
  · by_cases hv : s.index.valid = true
    · rw [readOp_of_valid s hv]
      exact hv
    · simp [State.readOp, ha, hv, Index.build]

theorem effMeas_of_ne (m : Option String) (hm : m ≠ some "") : effMeas m = m := by
  cases m with
  | none => rfl
  | some s =>
    have : s ≠ "" := fun h => hm (by rw [h])
    simp [effMeas, this]

theorem scanSel_eq (q : Query) (m : Option String) (hm : m ≠ some "") (p : Point) :
    State.scanSel q m p = .ok (selected q m p) := by
  unfold State.scanSel
  rw [effMeas_of_ne m hm]
  cases m with
  | none => simp [eval_eq, selected_none]
  | some name =>
    by_cases h : p.meas = name
    · simp [eval_eq, selected, h]
    · have h' : ¬ name = p.meas := fun e => h e.symm
      simp [selected, h, h', pure, Except.pure]

theorem restrictM_eq (l : List Point) (m : Option String) (hm : m ≠ some "") :
    State.restrictM l m = restrict l m := by
  unfold State.restrictM restrict
  rw [effMeas_of_ne m hm]
  cases m with
  | none => exact (List.filter_eq_self.mpr fun _ _ => rfl).symm
  | some name => exact (restrict_some l name).symm

theorem indexSearch_spec (s : State) (hs : Inv s) (hv : s.index.valid = true) (q : Query) (hq : exact q = true)
    (m : Option String) (hm : m ≠ some "") :
    ∃ r, s.indexSearch q m = .ok r ∧ Selects r s.storage (selected q m) := by
  have hrep := hs.rep hv
  unfold State.indexSearch
  rw [effMeas_of_ne m hm]
  cases m with
  | none =>
    obtain ⟨r, h1, hsel⟩ := search_selects s.index s.storage hrep q hq
    exact ⟨r, h1, hsel.nodup, by simpa only [selected_none] using hsel.mem⟩
  | some name =>
    obtain ⟨r, h1, hsel⟩ := search_selects s.index s.storage hrep
      (.and (.meas (.cmp .eq (.str name))) q) (by simp [exact, hq])
    refine ⟨r, h1, hsel.nodup, fun i => ?_⟩
    rw [hsel.mem]
    simp only [selected, sem, Leaf.eval, pyCmp, Option.all_some, Bool.and_eq_true, beq_iff_eq, PyV.str.injEq]
    constructor <;> rintro ⟨hi, h, h'⟩ <;> exact ⟨hi, h.symm, h'⟩

theorem scanPath_spec (s : State) (q : Query) (m : Option String) (hm : m ≠ some "") :
    s.storage.filterM (State.scanSel q m) = .ok (s.storage.filter (selected q m)) :=
  filterM_ok (State.scanSel q m) (selected q m) (scanSel_eq q m hm) s.storage

theorem indexPath_spec (s : State) (hs : Inv s) (q : Query) (m : Option String) (hm : m ≠ some "")
    (hv : (s.index.valid && exact q) = true) :
    ∃ r, s.indexSearch q m = .ok r ∧ r.length = (s.storage.filter (selected q m)).length ∧
      s.rowsAt r = s.storage.filter (selected q m) := by
  obtain ⟨hv1, hv2⟩ := Bool.and_eq_true_iff.mp hv
  obtain ⟨r, hr, hsel⟩ := indexSearch_spec s hs hv1 q hv2 m hm
  exact ⟨r, hr, hsel.length_eq, hsel.rowsAt_eq⟩

theorem found_spec (s : State) (hs : Inv s) (q : Query) (m : Option String) (hm : m ≠ some "") (fb : Bool) :
    s.found q m fb = .ok (s.storage.filter (selected q m)) := by
  unfold State.found
  by_cases hv : (s.index.valid && exact q) = true
  · obtain ⟨r, hr, hlen, hrows⟩ := indexPath_spec s hs q m hm hv
    simp only [hv, if_true, hr, bind, Except.bind]
    by_cases he : r.isEmpty = true
    · -- nothing found: nothing is selected
      simp only [he, if_true, pure, Except.pure]
      rw [List.isEmpty_iff_length_eq_zero, hlen] at he
      rw [List.eq_nil_of_length_eq_zero he]
    · -- with and without the fallback to a scan the rows are the selected ones
      simp only [he, hrows, scanPath_spec s q m hm, pure, Except.pure]
      simp
  · simp only [hv]
    exact scanPath_spec s q m hm

theorem sortByTime_eq (l : List Point) : State.sortByTime l = byTime l := rfl

/-! The left-hand sides of `search_out` … `mlen_out` (`tagValues_out` apart, which speaks of `State.step` itself) are the
    output expressions of `State.step` (Model/DB.lean) for these operations, copied; the `rfl`s in `step_read_refines`
    (`viaReadOp rfl`, `direct rfl`) tie them, and stop checking when `State.step` changes. -/

theorem search_out (s : State) (hs : Inv s) (q : Query) (m : Option String) (hm : m ≠ some "") (sorted fb : Bool) :
    State.outOf (s.found q m fb) (fun l => .points (if sorted then State.sortByTime l else l)) =
      .points (search s.storage q m sorted) := by
  rw [found_spec s hs q m hm]
  cases sorted <;> rfl

theorem get_out (s : State) (hs : Inv s) (q : Query) (m : Option String) (hm : m ≠ some "") (fb : Bool) :
    State.outOf (s.found q m fb) (fun l => .point l.head?) = .point (Spec.get s.storage q m) := by
  rw [found_spec s hs q m hm]
  rfl

theorem select_out (s : State) (hs : Inv s) (keys : List SelKey) (q : Query) (m : Option String)
    (hm : m ≠ some "") (fb : Bool) :
    State.outOf (s.found q m fb) (fun l => .rows (l.map (project keys))) = .rows (select s.storage keys q m) := by
  rw [found_spec s hs q m hm]
  rfl

theorem count_out (s : State) (hs : Inv s) (q : Query) (m : Option String) (hm : m ≠ some "") :
    (if s.index.valid && exact q
      then State.outOf (s.indexSearch q m) fun items => .nat items.length
      else State.outOf (s.storage.filterM (State.scanSel q m)) fun l => .nat l.length) =
    .nat (count s.storage q m) := by
  by_cases hv : (s.index.valid && exact q) = true
  · obtain ⟨r, hr, hlen, _⟩ := indexPath_spec s hs q m hm hv
    rw [if_pos hv, hr]
    exact congrArg Out.nat hlen
  · rw [if_neg hv, scanPath_spec s q m hm]
    rfl

theorem contains_out (s : State) (hs : Inv s) (q : Query) (m : Option String) (hm : m ≠ some "") :
    (if s.index.valid && exact q
      then State.outOf (s.indexSearch q m) fun items => .bool (!items.isEmpty)
      else State.outOf (s.storage.filterM (State.scanSel q m)) fun l => .bool (!l.isEmpty)) =
    .bool (contains s.storage q m) := by
  by_cases hv : (s.index.valid && exact q) = true
  · obtain ⟨r, hr, hlen, _⟩ := indexPath_spec s hs q m hm hv
    rw [if_pos hv, hr]
    have : r.isEmpty = (s.storage.filter (selected q m)).isEmpty := by
      rw [Bool.eq_iff_iff, List.isEmpty_iff_length_eq_zero, List.isEmpty_iff_length_eq_zero, hlen]
    exact congrArg (fun b => Out.bool (!b)) this
  · rw [if_neg hv, scanPath_spec s q m hm]
    rfl

theorem measurements_out (s : State) (hs : Inv s) :
    sortStr (if s.index.valid then s.index.getMeasurements else dedup (s.storage.map (·.meas))) =
      measurements s.storage := by
  unfold measurements
  by_cases hv : s.index.valid = true
  · rw [if_pos hv]
    obtain ⟨h1, h2⟩ := getMeasurements_spec s.index s.storage (hs.rep hv)
    exact sortStr_eq_eraseDups _ _ h1 fun a => by rw [h2, List.mem_map]
  · rw [if_neg hv]
    exact sortStr_eq_eraseDups _ _ (nodup_dedup _) (mem_dedup _)

theorem tagKeys_out (s : State) (hs : Inv s) (m : Option String) (hm : m ≠ some "") :
    sortStr (if s.index.valid then s.index.getTagKeys (effMeas m)
             else dedup ((State.restrictM s.storage m).flatMap (fun p => p.tags.map (·.1)))) =
      tagKeys s.storage m := by
  unfold tagKeys
  by_cases hv : s.index.valid = true
  · rw [if_pos hv, effMeas_of_ne m hm]
    obtain ⟨h1, h2⟩ := getTagKeys_spec s.index s.storage (hs.rep hv) m
    exact sortStr_eq_eraseDups _ _ h1 fun a => by
      simp only [h2, restrict, List.mem_flatMap, List.mem_filter, and_assoc]
  · rw [if_neg hv, restrictM_eq _ m hm]
    exact sortStr_eq_eraseDups _ _ (nodup_dedup _) (mem_dedup _)

theorem fieldKeys_out (s : State) (hs : Inv s) (m : Option String) (hm : m ≠ some "") :
    sortStr (if s.index.valid then s.index.getFieldKeys (effMeas m)
             else dedup ((State.restrictM s.storage m).flatMap (fun p => p.fields.map (·.1)))) =
      fieldKeys s.storage m := by
  unfold fieldKeys
  by_cases hv : s.index.valid = true
  · rw [if_pos hv, effMeas_of_ne m hm]
    obtain ⟨h1, h2⟩ := getFieldKeys_spec s.index s.storage (hs.rep hv) m
    exact sortStr_eq_eraseDups _ _ h1 fun a => by
      simp only [h2, restrict, List.mem_flatMap, List.mem_filter, and_assoc]
  · rw [if_neg hv, restrictM_eq _ m hm]
    exact sortStr_eq_eraseDups _ _ (nodup_dedup _) (mem_dedup _)

theorem fieldValues_out (s : State) (hs : Inv s) (k : String) (m : Option String) (hm : m ≠ some "") :
    (if s.index.valid then s.index.getFieldValues k (effMeas m)
     else (State.restrictM s.storage m).filterMap (fun p => p.fields.lookup k)) =
      fieldValues s.storage k m := by
  unfold fieldValues
  by_cases hv : s.index.valid = true
  · rw [if_pos hv, effMeas_of_ne m hm, getFieldValues_spec s.index s.storage (hs.rep hv) k m]
    rfl
  · rw [if_neg hv, restrictM_eq _ m hm]

theorem timestamps_out (s : State) (hs : Inv s) (m : Option String) (hm : m ≠ some "") :
    (if s.index.valid then s.index.getTimestamps (effMeas m)
     else (State.restrictM s.storage m).map (·.time)) = timestamps s.storage m := by
  unfold timestamps
  by_cases hv : s.index.valid = true
  · rw [if_pos hv, effMeas_of_ne m hm, getTimestamps_spec s.index s.storage (hs.rep hv) m]
    rfl
  · rw [if_neg hv, restrictM_eq _ m hm]

theorem len_out (s : State) (hs : Inv s) :
    (if s.cfg.autoIndex && s.index.valid then s.index.numItems else s.storage.length) = s.storage.length := by
  by_cases hv : (s.cfg.autoIndex && s.index.valid) = true
  · rw [if_pos hv]
    exact (hs.rep (Bool.and_eq_true_iff.mp hv).2).num
  · rw [if_neg hv]

theorem mlen_out (s : State) (hs : Inv s) (name : String) :
    (if s.cfg.autoIndex && s.index.valid then (s.index.measItems name).length
     else (s.storage.filter (fun p => p.meas == name)).length) = (restrict s.storage (some name)).length := by
  rw [restrict_some]
  by_cases hv : (s.cfg.autoIndex && s.index.valid) = true
  · rw [if_pos hv]
    exact (measItems_spec s.index s.storage (hs.rep (Bool.and_eq_true_iff.mp hv).2) name).1
  · rw [if_neg hv]

/-- Both sides are sorted by key, so it is enough that the entries agree (`sortKeys_congr`). A dict meeting `TVSpec` holds
    under each key a duplicate-free list with the members of the Spec's value set, which sorts to the Spec's list: it is
    its keys under the Spec's value function (`hR`), and its keys are the Spec's. -/
theorem tagVals_canon (l : List Point) (keys : List String) (m : Option String) (R : TV)
    (h : TVSpec l keys m R) :
    canon (.tagVals (R.map (fun kv => (kv.1, kv.2.mergeSort optStrLe)))) =
      canon (.tagVals (tagValues l keys m)) := by
  obtain ⟨h1, h2, h3⟩ := h
  have hR : R.map (fun kv => (kv.1, kv.2.mergeSort optStrLe)) = (keysAL R).map (fun k => (k, tagValuesOf l m k)) := by
    rw [keysAL, List.map_map]
    refine List.map_congr_left fun kv hmem => congrArg (Prod.mk kv.1) ?_
    obtain ⟨hn, hm⟩ := h3 kv.1 kv.2 hmem
    apply sortOpt_congr _ _ hn (nodup_eraseDups _)
    intro v; rw [hm, List.mem_eraseDups]
    simp only [restrict, List.mem_filterMap, List.mem_filter, and_assoc]
  have hnd : (if keys.isEmpty then tagKeys l m else sortStr keys.eraseDups).Nodup := by
    split <;> exact nodup_sortStr _ (nodup_eraseDups _)
  simp only [canon, tagValues, hR]
  congr 1
  apply sortKeys_congr
  · simpa [List.map_map, Function.comp_def] using h1
  · simpa [List.map_map, Function.comp_def] using hnd
  · intro a
    simp only [List.mem_map, h2]

theorem tagValues_out (s : State) (hs : Inv s) (keys : List String) (m : Option String) (hm : m ≠ some "") :
    canon (s.step (.getTagValues keys m)).2 = canon (.tagVals (tagValues s.storage keys m)) := by
  have hi := (readOp_spec s hs).1
  have hst := readOp_storage s
  simp only [State.step]
  by_cases hv : s.readOp.index.valid = true
  · rw [if_pos hv, effMeas_of_ne m hm, ← hst]
    exact tagVals_canon _ keys m _ (getTagValues_spec s.readOp.index s.readOp.storage (hi.rep hv) keys m)
  · rw [if_neg hv, restrictM_eq _ m hm, ← hst]
    exact tagVals_canon _ keys m _ (scanTagValues_spec s.readOp.storage hi.wfPoint keys m)

/-- a read ends in `s.readOp` or in `s` itself: the same storage, so the Spec's output there is the Spec's output -/
theorem read_refines_of (s : State) (hs : Inv s) (op : Op) {s' : State} {o : Out} (h : s.step op = (s', o))
    (hs' : s' = s.readOp ∨ s' = s) (ho : canon o = canon (Spec.step s'.storage op).2) :
    canon (s.step op).2 = canon (Spec.step s.storage op).2 ∧
    (s.step op).1.storage = s.storage ∧ (s.step op).1.cfg = s.cfg ∧ Inv (s.step op).1 ∧
    (s.index.valid = true → (s.step op).1.index = s.index) := by
  have hi := (readOp_spec s hs).1
  rw [h]
  rcases hs' with rfl | rfl
  · rw [readOp_storage] at ho
    exact ⟨ho, readOp_storage s, readOp_cfg s, hi, fun hv => by rw [readOp_of_valid s hv]⟩
  · exact ⟨ho, rfl, rfl, hs, fun _ => rfl⟩

theorem step_read_refines (s : State) (hs : Inv s) (op : Op) (hr : isRead op = true) (hm : MeasOK op) :
    canon (s.step op).2 = canon (Spec.step s.storage op).2 ∧
    (s.step op).1.storage = s.storage ∧ (s.step op).1.cfg = s.cfg ∧ Inv (s.step op).1 ∧
    (s.index.valid = true → (s.step op).1.index = s.index) := by
  have hi := (readOp_spec s hs).1
  -- `viaReadOp`: the output is computed on `s.readOp`; `direct`: the state is left alone
  have viaReadOp {o : Out} (h : s.step op = (s.readOp, o)) (ho : o = (Spec.step s.readOp.storage op).2) :=
    read_refines_of s hs op h (.inl rfl) (congrArg canon ho)
  have direct {o : Out} (h : s.step op = (s, o)) (ho : o = (Spec.step s.storage op).2) :=
    read_refines_of s hs op h (.inr rfl) (congrArg canon ho)
  cases op with
  | insert pts m => cases hr
  | remove q m => cases hr
  | drop name => cases hr
  | removeAll => cases hr
  | update all q u m => cases hr
  | search q m sorted => exact viaReadOp rfl (search_out s.readOp hi q m hm sorted true)
  | count q m => exact viaReadOp rfl (count_out s.readOp hi q m hm)
  | contains q m => exact viaReadOp rfl (contains_out s.readOp hi q m hm)
  | get q m => exact viaReadOp rfl (get_out s.readOp hi q m hm true)
  | select keys q m => exact viaReadOp rfl (select_out s.readOp hi keys q m hm false)
  | getMeasurements => exact viaReadOp rfl (congrArg Out.strs (measurements_out s.readOp hi))
  | getTagKeys m => exact viaReadOp rfl (congrArg Out.strs (tagKeys_out s.readOp hi m hm))
  | getTagValues keys m =>
    have h : s.step (.getTagValues keys m) = (s.readOp, (s.step (.getTagValues keys m)).2) := by
      refine Prod.ext ?_ rfl
      show (if s.readOp.index.valid = true then _ else _ : State × Out).1 = _
      split <;> rfl
    exact read_refines_of s hs _ h (.inl rfl) (by rw [readOp_storage]; exact tagValues_out s hs keys m hm)
  | getFieldKeys m => exact viaReadOp rfl (congrArg Out.strs (fieldKeys_out s.readOp hi m hm))
  | getFieldValues k m => exact viaReadOp rfl (congrArg Out.nums (fieldValues_out s.readOp hi k m hm))
  | getTimestamps m => exact viaReadOp rfl (congrArg Out.times (timestamps_out s.readOp hi m hm))
  | len => exact direct rfl (congrArg Out.nat (len_out s hs))
  | iter => exact direct rfl rfl
  | all sorted => exact viaReadOp rfl rfl
  | mlen name => exact direct rfl (congrArg Out.nat (mlen_out s hs name))
  | miter name => exact direct rfl (congrArg Out.points (restrict_some s.storage name).symm)
  | mall name sorted => exact direct rfl (by simp only [Spec.step, restrict_some]; rfl)
  | reindex =>
    have e : s.step .reindex = (if s.index.valid = true then s else { s with index := Index.build s.storage }, .unit) := rfl
    rw [e]
    by_cases hv : s.index.valid = true
    · rw [if_pos hv]; exact ⟨rfl, rfl, rfl, hs, fun _ => rfl⟩
    · rw [if_neg hv]; exact ⟨rfl, rfl, rfl, inv_rebuild s hs, fun h => absurd h hv⟩

end TinyFlux.Model
