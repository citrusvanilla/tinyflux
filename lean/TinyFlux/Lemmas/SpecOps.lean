import TinyFlux.Lemmas.Basics
import TinyFlux.Lemmas.Dict
/-! Facts about the Spec's operations themselves. `Spec.update` is read as `mapM specF` plus a count (`update_eq`), which
    gives the pointwise statements; what `upd` leaves in a point's dicts is `tags_fields_of_upd`. `Point.eqv` (Python's
    `Point.__eq__`) is reflexive and symmetric only on dict-shaped points: with a repeated key `dictEqv a a` can be
    false, hence the `WFPoint` hypotheses. -/
namespace TinyFlux.Model
open TinyFlux.Spec

/-- the function `Spec.update` maps over the database, copied so that lemmas can name it (`update_eq` is `rfl`) -/
def Writes.specF (u : Upd) (sel : Point → Bool) (p : Point) : Except Err Point :=
  if sel p then do let p' ← upd u p; pure (if p'.eqv p then p else p') else pure p

namespace PropsAux2

theorem update_ok (db db' : DB) (u : Upd) (q : Query) (m : Option String) (n : Nat)
    (h : Spec.update db u q m = .ok (db', n)) :
    db.mapM (Writes.specF u (selected q m)) = .ok db' ∧
    n = (List.zip db db').countP (fun pp => !(pp.1.eqv pp.2)) := by
  obtain ⟨l, hl, h⟩ := Except.bind_eq_ok.mp h
  cases h
  exact ⟨hl, rfl⟩

theorem never_drops_keys {V : Type} (d new : List (String × V)) :
    ∀ k, k ∈ d.map (·.1) → k ∈ (dictUpdate d new).map (·.1) := by
  unfold dictUpdate
  induction new generalizing d with
  | nil => intro k h; simpa using h
  | cons kv t ih =>
    intro k h
    simp only [List.foldl_cons]
    refine ih _ k ?_
    rw [TinyFlux.Spec.keys_dictSet]
    split
    · exact h
    · exact List.mem_append_left _ h

theorem merge_values {V : Type} (d new : List (String × V)) (hn : (new.map (·.1)).Nodup) (k : String) :
    (dictUpdate d new).lookup k = (match new.lookup k with | some v => some v | none => d.lookup k) := by
  unfold dictUpdate
  induction new generalizing d with
  | nil => simp [List.lookup]
  | cons kv t ih =>
    obtain ⟨a, b⟩ := kv
    simp only [List.map_cons, List.nodup_cons] at hn
    simp only [List.foldl_cons]
    rw [ih _ hn.2]
    by_cases hk : k = a
    · subst hk
      rw [(lookupAL_eq_lookup k t).symm.trans (lookupAL_none_of_not_mem k t hn.1)]
      simp [List.lookup, lookup_dictSet]
    · have : (k == a) = false := by simpa using hk
      simp only [List.lookup, this, lookup_dictSet, hk, if_false]

end PropsAux2
end TinyFlux.Model

namespace TinyFlux.Spec
open TinyFlux.Model TinyFlux.Model.PropsAux2

theorem update_eq (db : DB) (u : Upd) (q : Query) (m : Option String) :
    Spec.update db u q m = (db.mapM (Writes.specF u (selected q m))) >>= fun db' =>
      pure (db', (List.zip db db').countP (fun pp => !(pp.1.eqv pp.2))) := rfl

theorem tags_fields_of_upd {u : Upd} {p p' : Point} (h : upd u p = .ok p') :
    ∃ newT newF, p'.tags = eraseKeys (dictUpdate p.tags newT) u.unsetTags ∧
      p'.fields = eraseKeys (dictUpdate p.fields newF) u.unsetFields := by
  simp only [upd, Except.bind_eq_ok, pure, Except.pure, Except.ok.injEq] at h
  obtain ⟨_, _, _, _, tg, ht, fl, hf, rfl⟩ := h
  have hT : ∃ new, tg = dictUpdate p.tags new := by
    split at ht
    · exact ⟨[], (Except.ok.inj ht).symm⟩
    · obtain ⟨new, _, h⟩ := Except.bind_eq_ok.mp ht
      exact ⟨new, (Except.ok.inj h).symm⟩
  have hF : ∃ new, fl = dictUpdate p.fields new := by
    split at hf
    · exact ⟨[], (Except.ok.inj hf).symm⟩
    · obtain ⟨new, _, h⟩ := Except.bind_eq_ok.mp hf
      exact ⟨new, (Except.ok.inj h).symm⟩
  obtain ⟨newT, rfl⟩ := hT
  obtain ⟨newF, rfl⟩ := hF
  exact ⟨newT, newF, rfl, rfl⟩

theorem mem_tags_of_upd {u : Upd} {p p' : Point} (h : upd u p = .ok p') {kv : String × Option String}
    (hkv : kv ∈ p'.tags) : kv ∈ p.tags ∨ ∃ f new, u.tags = some f ∧ f p.tags = .ok new ∧ kv ∈ new := by
  simp only [upd, Except.bind_eq_ok, pure, Except.pure, Except.ok.injEq] at h
  obtain ⟨_, _, _, _, tg, ht, _, _, rfl⟩ := h
  have hkv : kv ∈ tg := (List.mem_filter.mp hkv).1
  split at ht
  · exact .inl (Except.ok.inj ht ▸ hkv)
  · rename_i f hf
    obtain ⟨new, hnew, h⟩ := Except.bind_eq_ok.mp ht
    rcases mem_dictUpdate _ _ _ (Except.ok.inj h ▸ hkv) with h | h
    · exact .inr ⟨f, new, hf, hnew, h⟩
    · exact .inl h

theorem update_pointwise (db db' : DB) (u : Upd) (q : Query) (m : Option String) (n : Nat)
    (h : Spec.update db u q m = .ok (db', n)) :
    db'.length = db.length ∧
    ∀ i (hi : i < db.length) (hi' : i < db'.length), Writes.specF u (selected q m) db[i] = .ok db'[i] :=
  pointwise_of_mapM_eq_ok _ db db' (update_ok db db' u q m n h).1

theorem update_order_untouched (db db' : DB) (u : Upd) (q : Query) (m : Option String) (n : Nat)
    (h : Spec.update db u q m = .ok (db', n)) :
    db'.length = db.length ∧
    ∀ i (hi : i < db.length) (hi' : i < db'.length), selected q m db[i] = false → db'[i] = db[i] := by
  obtain ⟨hl, hf⟩ := update_pointwise db db' u q m n h
  refine ⟨hl, fun i hi hi' hsel => ?_⟩
  have := hf i hi hi'
  rw [Writes.specF, hsel, if_neg Bool.false_ne_true] at this
  exact (Except.ok.inj this).symm

theorem dictEqv_iff {V : Type} [DecidableEq V] (a b : List (String × V)) :
    dictEqv a b = true ↔ a.length = b.length ∧ ∀ kv ∈ a, b.lookup kv.1 = some kv.2 := by
  simp [dictEqv, List.all_eq_true]

theorem dictEqv_refl {V : Type} [DecidableEq V] (a : List (String × V)) (hnd : (a.map (·.1)).Nodup) :
    dictEqv a a = true := by
  rw [dictEqv_iff]
  exact ⟨rfl, fun kv h => (lookup_iff_mem a hnd kv.1 kv.2).mpr h⟩

theorem dictEqv_symm {V : Type} [DecidableEq V] (a b : List (String × V)) (hnd : (a.map (·.1)).Nodup)
    (h : dictEqv a b = true) : dictEqv b a = true := by
  rw [dictEqv_iff] at h ⊢
  refine ⟨h.1.symm, fun kv hkv => ?_⟩
  have hsub : a ⊆ b := fun x hx => mem_of_lookupAL b x.1 x.2 ((lookupAL_eq_lookup x.1 b).trans (h.2 x hx))
  have := superset_of_length a b (List.Pairwise.of_map (·.1) (fun _ _ h e => h (by rw [e])) hnd) hsub (by omega) hkv
  exact (lookup_iff_mem a hnd kv.1 kv.2).mpr this

theorem eqv_refl (p : Point) (hp : WFPoint p) : p.eqv p = true := by
  simp [Point.eqv, dictEqv_refl _ hp.1, dictEqv_refl _ hp.2]

theorem eqv_symm (p q : Point) (hp : WFPoint p) (h : p.eqv q = true) : q.eqv p = true := by
  simp only [Point.eqv, Bool.and_eq_true, beq_iff_eq] at h ⊢
  obtain ⟨⟨⟨h1, h2⟩, h3⟩, h4⟩ := h
  exact ⟨⟨⟨h1.symm, h2.symm⟩, dictEqv_symm _ _ hp.1 h3⟩, dictEqv_symm _ _ hp.2 h4⟩

theorem eqv_comm (p q : Point) (hp : WFPoint p) (hq : WFPoint q) : p.eqv q = q.eqv p := by
  cases h1 : p.eqv q <;> cases h2 : q.eqv p <;> try rfl
  · rw [eqv_symm q p hq h2] at h1; cases h1
  · rw [eqv_symm p q hp h1] at h2; cases h2

theorem countP_self (l : List Point) (h : ∀ p ∈ l, WFPoint p) :
    (List.zip l l).countP (fun pp => !(pp.1.eqv pp.2)) = 0 := by
  induction l with
  | nil => rfl
  | cons p t ih =>
    simp [eqv_refl p (h p (by simp)), ih (fun q hq => h q (by simp [hq]))]

theorem selected_none (q : Query) (p : Point) : selected q none p = sem q p := Bool.true_and _

theorem selected_meas (q : Query) (name : String) (p : Point) (h : selected q (some name) p = true) :
    p.meas = name := by
  simp [selected] at h
  exact h.1.symm

/-- with no query (`.noop`) or with the query `drop_measurement` builds, selection under `some name` is `p.meas == name`;
    `drop_refines` goes through the two -/
theorem selected_noop_some (name : String) (p : Point) : selected .noop (some name) p = (p.meas == name) := by
  simp only [selected, sem, Option.all_some, Bool.and_true]
  exact Bool.beq_comm

theorem selected_measEq_some (name : String) (p : Point) :
    selected (.meas (.cmp .eq (.str name))) (some name) p = (p.meas == name) := by
  rw [Bool.eq_iff_iff]
  simp only [selected, sem, Leaf.eval, pyCmp, Option.all_some, Bool.and_eq_true, beq_iff_eq, PyV.str.injEq]
  exact ⟨fun h => h.2, fun h => ⟨h.symm, h⟩⟩

theorem restrict_some (l : List Point) (name : String) :
    restrict l (some name) = l.filter (fun p => p.meas == name) :=
  List.filter_congr fun p _ => (Bool.and_true _).symm.trans (selected_noop_some name p)

theorem mem_search (db : DB) (q : Query) (m : Option String) (sorted : Bool) (p : Point) :
    p ∈ Spec.search db q m sorted ↔ p ∈ db ∧ selected q m p = true := by
  unfold Spec.search
  split
  · rw [(byTime_perm _).mem_iff, List.mem_filter]
  · exact List.mem_filter

theorem mem_search_meas (db : DB) (q : Query) (name : String) (sorted : Bool) (p : Point)
    (h : p ∈ Spec.search db q (some name) sorted) : p.meas = name :=
  selected_meas q name p ((mem_search db q (some name) sorted p).mp h).2

theorem filter_other_meas (db : DB) (q : Query) (name : String) :
    (db.filter (fun p => !selected q (some name) p)).filter (fun p => p.meas != name) =
      db.filter (fun p => p.meas != name) := by
  rw [List.filter_filter]
  apply List.filter_congr
  intro p _
  by_cases hp : p.meas = name
  · simp [hp]
  · have : selected q (some name) p = false := Bool.eq_false_iff.mpr fun h => hp (selected_meas q name p h)
    simp [this]

theorem insertPrefix_some (name : String) (pts : List Point) :
    insertPrefix (some name) (pts.map some) = (pts.map (fun p => { p with meas := name }), false) := by
  induction pts with
  | nil => rfl
  | cons p t ih => simp [insertPrefix, ih]

theorem update_cases (db : DB) (all : Bool) (q : Query) (u : Upd) (m : Option String) :
    ((Spec.step db (.update all q u m)).1 = db ∧ ∃ e, (Spec.step db (.update all q u m)).2 = .err e) ∨
    ∃ db' n, Spec.update db u (if all then .noop else q) m = .ok (db', n) ∧
      Spec.step db (.update all q u m) = (db', .nat n) := by
  unfold Spec.step
  by_cases he : updEmpty u = true
  · left; simp [he]
  · simp only [he, Bool.false_eq_true, if_false]
    cases hu : Spec.update db u (if all then .noop else q) m with
    | error e => left; exact ⟨rfl, e, rfl⟩
    | ok r =>
      obtain ⟨db', n⟩ := r
      right; exact ⟨db', n, rfl, rfl⟩

end TinyFlux.Spec
