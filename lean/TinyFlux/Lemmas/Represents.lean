import TinyFlux.Lemmas.PMapLemmas
import TinyFlux.Lemmas.TimeIndex
/-! `Represents` is `MapsRep ∧ TimeRep` (`represents_iff`); every index operation is shown to keep it component by component.
    `represents_build` is in `TinyFlux.Model`; the three for the operations a write makes (`represents_empty`,
    `represents_insert`, `represents_remove_update`) are in `Model.Writes`, like the write helpers' specifications. -/
namespace TinyFlux.Model
open TinyFlux.Spec

theorem Represents.mapsRep {idx : Index} {l : List Point} (h : Represents idx l) : MapsRep idx l :=
  ⟨h.num, ⟨h.meas, h.wfMeas⟩, ⟨h.tags, h.wfTags⟩, ⟨h.fields, h.wfFields⟩⟩

theorem Represents.timeRep {idx : Index} {l : List Point} (h : Represents idx l) :
    TimeRep idx.ts idx.pos l := ⟨h.tsLen, h.tsSorted, h.tsPerm⟩

theorem represents_iff (idx : Index) (l : List Point) :
    Represents idx l ↔ MapsRep idx l ∧ TimeRep idx.ts idx.pos l :=
  ⟨fun h => ⟨h.mapsRep, h.timeRep⟩,
   fun ⟨a, b⟩ => ⟨a.num, a.meas.post, a.tags.post, a.fields.post, a.meas.wf, a.tags.wf, a.fields.wf, b.len_eq, b.sorted, b.perm⟩⟩

theorem represents_build (l : List Point) (hwf : ∀ p ∈ l, WFPoint p) : Represents (Index.build l) l := by
  have h := MapsRep.empty.buildFrom l hwf
  -- `h` field by field: `Index.build l` is `Index.buildFrom {} l 0` with other time arrays, and has the same maps
  exact (represents_iff _ _).mpr ⟨⟨h.num, h.meas, h.tags, h.fields⟩, timeRep_build l⟩

namespace Writes

theorem represents_empty : Represents {} [] :=
  (represents_iff _ _).mpr ⟨MapsRep.empty, rfl, List.Pairwise.nil, List.Perm.nil⟩

theorem represents_insert {idx : Index} {l : List Point} {p : Point} (h : Represents idx l) (hp : WFPoint p)
    (hord : ∀ t, idx.ts.getLast? = some t → t ≤ p.time) : Represents (idx.insert p) (l ++ [p]) := by
  have hm := h.mapsRep.insertMaps p hp
  rw [← h.timeRep.ts_length] at hm
  -- `hm` field by field: `idx.insert p` sets the count and the time arrays before `insertMaps`, and has the same maps
  exact (represents_iff _ _).mpr ⟨⟨hm.num, hm.meas, hm.tags, hm.fields⟩,
    timeRep_insert idx.ts idx.pos l h.timeRep p hord⟩

/-- `keep i`: row `i` survives; `removed` lists the other positions; `updated` sends a survivor to the number of survivors
    before it (no entry = unchanged): what `removeLoop` / `scanRemoveLoop` return (`scanRemoveLoop_spec`) -/
theorem represents_remove_update {idx : Index} {l : List Point} (h : Represents idx l) (keep : Nat → Bool)
    (removed : List Nat) (updated : List (Nat × Nat))
    (hr : ∀ i, i < l.length → removed.contains i = !keep i)
    (hf : ∀ i, i < l.length → keep i = true → (updated.lookup i).getD i = cnt keep 0 i)
    (hlen : removed.length + (keepIdx keep l 0).length = l.length) :
    Represents ((idx.remove removed).update updated) (keepIdx keep l 0) := by
  have hm := h.mapsRep
  refine (represents_iff _ _).mpr ⟨⟨?_, hm.meas.remove_renumber keep removed.contains _ hr hf,
    hm.tags.remove_renumber keep removed.contains _ hr hf, hm.fields.remove_renumber keep removed.contains _ hr hf⟩,
    timeRep_remove_update idx.ts idx.pos l h.timeRep keep removed.contains _ hr hf⟩
  simp only [Index.update, Index.remove]
  have := h.num
  omega

end Writes

end TinyFlux.Model
