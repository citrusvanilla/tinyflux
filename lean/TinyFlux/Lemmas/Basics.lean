import TinyFlux.Lemmas.Defs
import TinyFlux.Lemmas.AL
/-!
# Lists, sorts and `Except` loops: what the proofs about the index and the database share

A loop in `Except` whose body never raises is its pure counterpart (`mapM_ok`, `filterM_ok`, …). The sort of a
duplicate-free list depends on its members only (`mergeSort_congr`): that is how a getter of the Model is matched with
the Spec's `sortStr ∘ eraseDups`; `byTime_*` say of the Spec's time sort that it is a stable sort. A filter that is a
prefix, a suffix or a run (`filter_eq_take`, …) is what bisection computes. `zipIdx_keepIdx` is the one renumbering
argument for a removal: row `i` of the kept rows (`keepIdx`) gets `cnt keep 0 i`. `Selects` (with `length_eq`, `rowsAt_eq`)
is here because both the index and the database proofs use it.
-/
namespace TinyFlux.Model
open TinyFlux.Spec

theorem Except.bind_eq_ok {ε α β : Type} {x : Except ε α} {f : α → Except ε β} {b : β} :
    x >>= f = .ok b ↔ ∃ a, x = .ok a ∧ f a = .ok b := by
  cases x <;> simp [bind, Except.bind]

theorem mapM_ok {ε α β : Type} (f : α → Except ε β) (g : α → β) (l : List α)
    (h : ∀ x ∈ l, f x = .ok (g x)) : l.mapM f = .ok (l.map g) := by
  induction l with
  | nil => rfl
  | cons x t ih =>
    rw [List.mapM_cons, h x List.mem_cons_self, ih (fun y hy => h y (List.mem_cons_of_mem _ hy))]
    rfl

theorem pointwise_of_mapM_eq_ok {α β ε : Type} (f : α → Except ε β) (l : List α) (l' : List β) (h : l.mapM f = .ok l') :
    l'.length = l.length ∧ ∀ i (hi : i < l.length) (hi' : i < l'.length), f l[i] = .ok l'[i] := by
  induction l generalizing l' with
  | nil =>
    cases h
    exact ⟨rfl, fun i hi => absurd hi (Nat.not_lt_zero i)⟩
  | cons a t ih =>
    rw [List.mapM_cons] at h
    obtain ⟨b, hb, h⟩ := Except.bind_eq_ok.mp h
    obtain ⟨bs, hbs, h⟩ := Except.bind_eq_ok.mp h
    cases h
    obtain ⟨h1, h2⟩ := ih bs hbs
    refine ⟨congrArg (· + 1) h1, fun i hi hi' => ?_⟩
    cases i with
    | zero => exact hb
    | succ j => exact h2 j (Nat.lt_of_succ_lt_succ hi) (Nat.lt_of_succ_lt_succ hi')

theorem filterMapM_ok {ε α β : Type} (f : α → Except ε (Option β)) (g : α → Option β) (l : List α)
    (h : ∀ x ∈ l, f x = .ok (g x)) : l.filterMapM f = .ok (l.filterMap g) := by
  induction l with
  | nil => rfl
  | cons x t ih =>
    rw [List.filterMapM_cons, h x List.mem_cons_self, ih (fun y hy => h y (List.mem_cons_of_mem _ hy)),
      List.filterMap_cons]
    cases g x <;> rfl

theorem filterAuxM_ok {ε α : Type} (f : α → Except ε Bool) (g : α → Bool) (hf : ∀ x, f x = .ok (g x))
    (l acc : List α) : List.filterAuxM f l acc = .ok ((l.filter g).reverse ++ acc) := by
  induction l generalizing acc with
  | nil => rfl
  | cons a t ih =>
    simp only [List.filterAuxM, hf, bind, Except.bind]
    rw [ih]
    cases h : g a <;> simp [List.filter, h]

theorem filterM_ok {ε α : Type} (f : α → Except ε Bool) (g : α → Bool) (hf : ∀ x, f x = .ok (g x))
    (l : List α) : l.filterM f = .ok (l.filter g) := by
  simp [List.filterM, filterAuxM_ok f g hf, bind, Except.bind, pure, Except.pure]

section Dedup
variable {α : Type} [BEq α] [LawfulBEq α]

theorem mem_dedup (l : List α) (a : α) : a ∈ dedup l ↔ a ∈ l := by
  induction l with
  | nil => rfl
  | cons x t ih =>
    rw [dedup]
    split
    · rename_i hx
      have hx' : x ∈ t := by simpa using hx
      rw [ih, List.mem_cons]
      exact ⟨Or.inr, fun h => h.elim (fun e => e ▸ hx') id⟩
    · rw [List.mem_cons, List.mem_cons, ih]

theorem nodup_dedup (l : List α) : (dedup l).Nodup := by
  induction l with
  | nil => exact List.nodup_nil
  | cons x t ih =>
    rw [dedup]
    split
    · exact ih
    · rename_i hx
      have hx' : x ∉ t := by simpa using hx
      exact List.nodup_cons.mpr ⟨by rwa [mem_dedup], ih⟩

theorem dedup_of_nodup (l : List α) (h : l.Nodup) : dedup l = l := by
  induction l with
  | nil => rfl
  | cons a t ih =>
    rw [List.nodup_cons] at h
    simp [dedup, ih h.2, h.1]

theorem nodup_eraseDups (l : List α) : l.eraseDups.Nodup := by
  suffices h : ∀ n, ∀ l : List α, l.length ≤ n → l.eraseDups.Nodup from h _ l (Nat.le_refl _)
  intro n
  induction n with
  | zero =>
    intro l hl
    rw [List.eq_nil_of_length_eq_zero (Nat.le_zero.mp hl)]
    exact List.nodup_nil
  | succ n ih =>
    intro l hl
    cases l with
    | nil => exact List.nodup_nil
    | cons a t =>
      rw [List.eraseDups_cons]
      refine List.nodup_cons.mpr ⟨by simp [List.mem_eraseDups], ih _ ?_⟩
      have := List.length_filter_le (fun b => !b == a) t
      simp only [List.length_cons] at hl
      omega

end Dedup

theorem mergeSort_congr {α : Type} (le : α → α → Bool)
    (htrans : ∀ a b c, le a b = true → le b c = true → le a c = true)
    (htotal : ∀ a b, (le a b || le b a) = true)
    (X Y : List α) (hanti : ∀ a b, a ∈ X → b ∈ X → le a b = true → le b a = true → a = b)
    (hx : X.Nodup) (hy : Y.Nodup) (hm : ∀ a, a ∈ X ↔ a ∈ Y) :
    X.mergeSort le = Y.mergeSort le := by
  have hp : X.Perm Y := (List.perm_ext_iff_of_nodup hx hy).2 hm
  have hp' : (X.mergeSort le).Perm (Y.mergeSort le) :=
    (List.mergeSort_perm X le).trans (hp.trans (List.mergeSort_perm Y le).symm)
  refine List.Perm.eq_of_pairwise (le := fun a b => le a b = true) ?_
    (List.pairwise_mergeSort htrans htotal X) (List.pairwise_mergeSort htrans htotal Y) hp'
  intro a b ha hb hab hba
  exact hanti a b (List.mem_mergeSort.1 ha) ((hm b).2 (List.mem_mergeSort.1 hb)) hab hba

/-- the way to evaluate a sort inside a proof: `List.mergeSort` is defined by well-founded recursion, which the kernel
    does not unfold -/
theorem mergeSort_eq_of_perm {α : Type} {le : α → α → Bool}
    (htrans : ∀ a b c, le a b = true → le b c = true → le a c = true) (htotal : ∀ a b, (le a b || le b a) = true)
    {l l' : List α} (hp : l'.Perm l) (hs : l'.Pairwise fun a b => le a b = true ∧ le b a = false) :
    l.mergeSort le = l' := by
  refine List.Perm.eq_of_pairwise (le := fun a b => le a b = true) ?_
    (List.pairwise_mergeSort htrans htotal l) (hs.imp And.left) ((List.mergeSort_perm l le).trans hp.symm)
  intro a b ha hb hab hba
  obtain ⟨i, hi, rfl⟩ := List.getElem_of_mem (hp.mem_iff.2 (List.mem_mergeSort.1 ha))
  obtain ⟨j, hj, rfl⟩ := List.getElem_of_mem hb
  have h := List.pairwise_iff_getElem.1 hs
  rcases Nat.lt_trichotomy i j with hij | rfl | hji
  · exact absurd hba (ne_true_of_eq_false (h i j hi hj hij).2)
  · rfl
  · exact absurd hab (ne_true_of_eq_false (h j i hj hi hji).2)

theorem sort_by_pos (z w : List (Int × Nat)) (hp : z.Perm w)
    (hw : w.Pairwise (fun a b => a.2 < b.2)) :
    z.mergeSort (fun a b => decide (a.2 ≤ b.2)) = w :=
  mergeSort_eq_of_perm (le := fun a b : Int × Nat => decide (a.2 ≤ b.2))
    (fun a b c h1 h2 => decide_eq_true (Nat.le_trans (of_decide_eq_true h1) (of_decide_eq_true h2)))
    (fun a b => by simpa using Nat.le_total a.2 b.2) hp.symm
    (hw.imp fun h => ⟨decide_eq_true (Nat.le_of_lt h), decide_eq_false (Nat.not_le.mpr h)⟩)

theorem strLe_trans (a b c : String) : decide (a ≤ b) = true → decide (b ≤ c) = true → decide (a ≤ c) = true := by
  simp only [decide_eq_true_eq]; exact String.le_trans

theorem strLe_total (a b : String) : (decide (a ≤ b) || decide (b ≤ a)) = true := by
  simp only [Bool.or_eq_true, decide_eq_true_eq]; exact String.le_total a b

theorem sortStr_congr (X Y : List String) (hx : X.Nodup) (hy : Y.Nodup) (hm : ∀ a, a ∈ X ↔ a ∈ Y) :
    sortStr X = sortStr Y :=
  mergeSort_congr (fun a b : String => decide (a ≤ b)) strLe_trans strLe_total X Y
    (fun _ _ _ _ h1 h2 => String.le_antisymm (of_decide_eq_true h1) (of_decide_eq_true h2)) hx hy hm

/-- the form the Spec's key getters have: `sortStr` of the duplicates-erased list of what is there -/
theorem sortStr_eq_eraseDups (X Y : List String) (hx : X.Nodup) (hm : ∀ a, a ∈ X ↔ a ∈ Y) :
    sortStr X = sortStr Y.eraseDups :=
  sortStr_congr X _ hx (nodup_eraseDups Y) fun a => by rw [hm, List.mem_eraseDups]

theorem mem_sortStr (X : List String) (a : String) : a ∈ sortStr X ↔ a ∈ X := List.mem_mergeSort

theorem nodup_sortStr (X : List String) (h : X.Nodup) : (sortStr X).Nodup :=
  (List.mergeSort_perm X _).nodup_iff.2 h

theorem optStrLe_trans (a b c : Option String) :
    optStrLe a b = true → optStrLe b c = true → optStrLe a c = true := by
  cases a <;> cases b <;> cases c <;> simp [optStrLe]
  exact String.le_trans

theorem optStrLe_total (a b : Option String) : (optStrLe a b || optStrLe b a) = true := by
  cases a <;> cases b <;> simp [optStrLe]
  exact String.le_total _ _

theorem optStrLe_antisymm (a b : Option String) : optStrLe a b = true → optStrLe b a = true → a = b := by
  cases a <;> cases b <;> simp [optStrLe]
  exact String.le_antisymm

theorem sortOpt_congr (X Y : List (Option String)) (hx : X.Nodup) (hy : Y.Nodup) (hm : ∀ a, a ∈ X ↔ a ∈ Y) :
    X.mergeSort optStrLe = Y.mergeSort optStrLe :=
  mergeSort_congr _ optStrLe_trans optStrLe_total X Y (fun a b _ _ => optStrLe_antisymm a b) hx hy hm

theorem sortKeys_congr {V : Type} (X Y : List (String × V)) (hx : (X.map (·.1)).Nodup) (hy : (Y.map (·.1)).Nodup)
    (hm : ∀ a, a ∈ X ↔ a ∈ Y) :
    X.mergeSort (fun a b => decide (a.1 ≤ b.1)) = Y.mergeSort (fun a b => decide (a.1 ≤ b.1)) := by
  have nodup_of : ∀ Z : List (String × V), (Z.map (·.1)).Nodup → Z.Nodup := fun Z hz =>
    (List.pairwise_map.mp hz).imp (fun h e => h (congrArg Prod.fst e))
  refine mergeSort_congr (fun a b : String × V => decide (a.1 ≤ b.1)) (fun a b c => strLe_trans a.1 b.1 c.1)
    (fun a b => strLe_total a.1 b.1) X Y ?_
    (nodup_of X hx) (nodup_of Y hy) hm
  intro a b ha hb h1 h2
  have hk : a.1 = b.1 := String.le_antisymm (of_decide_eq_true h1) (of_decide_eq_true h2)
  -- unique keys: the same key is the same entry
  have h3 : X.lookup a.1 = some b.2 := hk ▸ (lookup_iff_mem X hx b.1 b.2).mpr hb
  rw [(lookup_iff_mem X hx a.1 a.2).mpr ha] at h3
  exact Prod.ext hk (Option.some.inj h3)

theorem timeLe_trans (a b c : Point) :
    decide (a.time ≤ b.time) = true → decide (b.time ≤ c.time) = true → decide (a.time ≤ c.time) = true := by
  simp only [decide_eq_true_eq]; exact Int.le_trans

theorem timeLe_total (a b : Point) : (decide (a.time ≤ b.time) || decide (b.time ≤ a.time)) = true := by
  simp only [Bool.or_eq_true, decide_eq_true_eq]; exact Int.le_total _ _

theorem byTime_perm (l : DB) : (byTime l).Perm l := List.mergeSort_perm _ _

theorem byTime_sorted (l : DB) : (byTime l).Pairwise (fun a b => a.time ≤ b.time) := by
  have := List.pairwise_mergeSort timeLe_trans timeLe_total l
  exact this.imp (fun h => by simpa using h)

/-- stability: the points of one instant keep their relative order. The points of instant `t` are pairwise `≤`, so
    they form a sublist of the stable sort; filtering that sublist relation by `t` again leaves two lists of the same
    length (the sort is a permutation), hence equal. -/
theorem byTime_filter_time (l : DB) (t : Time) :
    (byTime l).filter (fun p => p.time == t) = l.filter (fun p => p.time == t) := by
  have hpw : (l.filter (fun p => p.time == t)).Pairwise
      (fun a b => decide (a.time ≤ b.time) = true) := by
    rw [List.pairwise_iff_forall_sublist]
    intro a b hab
    have ha : a ∈ l.filter (fun p => p.time == t) := hab.subset (by simp)
    have hb : b ∈ l.filter (fun p => p.time == t) := hab.subset (by simp)
    simp only [List.mem_filter, beq_iff_eq] at ha hb
    simp [ha.2, hb.2]
  have hsub : (l.filter (fun p => p.time == t)).Sublist (byTime l) :=
    List.sublist_mergeSort timeLe_trans timeLe_total hpw List.filter_sublist
  have hsub' := hsub.filter (fun p => p.time == t)
  rw [List.filter_filter] at hsub'
  simp only [Bool.and_self] at hsub'
  exact (hsub'.eq_of_length ((byTime_perm l).filter _).length_eq.symm).symm

theorem sortStr_strict (X : List String) (h : X.Nodup) : (sortStr X).Pairwise (fun a b => a < b) := by
  have h1 : (sortStr X).Pairwise (fun a b => decide (a ≤ b) = true) :=
    List.pairwise_mergeSort strLe_trans strLe_total X
  have h2 : (sortStr X).Pairwise (· ≠ ·) := nodup_sortStr X h
  refine (h1.and h2).imp ?_
  rintro a b ⟨hle, hne⟩
  have hle' : a ≤ b := by simpa using hle
  apply Classical.byContradiction
  intro hlt
  exact hne (String.le_antisymm hle' (String.not_lt.1 hlt))

theorem filter_eq_take {α : Type} (p : α → Bool) (w : List α) (n : Nat)
    (h : ∀ j (hj : j < w.length), p w[j] = true ↔ j < n) : w.filter p = w.take n := by
  induction w generalizing n with
  | nil => simp
  | cons a t ih =>
    have h0 := h 0 (Nat.zero_lt_succ _)
    have ht : ∀ k, (∀ j (hj : j < t.length), p t[j] = true ↔ j < k) → t.filter p = t.take k := ih
    cases n with
    | zero =>
      have ha : p a = false := by simpa using h0
      rw [List.filter_cons_of_neg (by simp [ha]), List.take_zero]
      simpa using ht 0 (fun j hj => by simpa using h (j + 1) (Nat.succ_lt_succ hj))
    | succ n =>
      have ha : p a = true := by simpa using h0
      rw [List.filter_cons_of_pos ha, List.take_succ_cons,
        ht n (fun j hj => by simpa using h (j + 1) (Nat.succ_lt_succ hj))]

theorem filter_eq_drop {α : Type} (p : α → Bool) (w : List α) (n : Nat)
    (h : ∀ j (hj : j < w.length), p w[j] = true ↔ n ≤ j) : w.filter p = w.drop n := by
  induction w generalizing n with
  | nil => simp
  | cons a t ih =>
    have h0 := h 0 (Nat.zero_lt_succ _)
    cases n with
    | zero =>
      rw [List.drop_zero, List.filter_eq_self]
      intro b hb
      obtain ⟨j, hj, rfl⟩ := List.mem_iff_getElem.mp hb
      exact (h j hj).mpr (Nat.zero_le _)
    | succ n =>
      have ha : p a = false := by simpa using h0
      rw [List.filter_cons_of_neg (by simp [ha]), List.drop_succ_cons]
      exact ih n (fun j hj => by simpa using h (j + 1) (Nat.succ_lt_succ hj))

theorem filter_eq_takeWhile {α : Type} (p : α → Bool) (l : List α)
    (h : l.Pairwise (fun a b => p b = true → p a = true)) : l.filter p = l.takeWhile p := by
  induction l with
  | nil => rfl
  | cons a t ih =>
    obtain ⟨ha, ht⟩ := List.pairwise_cons.mp h
    rw [List.filter_cons, List.takeWhile_cons]
    cases hp : p a
    · -- `a` fails, so everything after it does
      exact List.filter_eq_nil_iff.mpr fun b hb hpb => by simp [ha b hb hpb] at hp
    · rw [ih ht]; rfl

theorem filter_eq_takeWhile_drop {α : Type} (p : α → Bool) (w : List α) (m : Nat)
    (h1 : ∀ j (hj : j < w.length), j < m → p w[j] = false)
    (h2 : ∀ j k (hk : k < w.length), m ≤ j → (hjk : j ≤ k) → p w[k] = true → p (w[j]'(by omega)) = true) :
    w.filter p = (w.drop m).takeWhile p := by
  have hpre : (w.take m).filter p = [] := List.filter_eq_nil_iff.mpr fun a ha hp => by
    obtain ⟨j, hj, rfl⟩ := List.mem_iff_getElem.mp ha
    rw [List.length_take, Nat.lt_min] at hj
    rw [List.getElem_take, h1 j hj.2 hj.1] at hp
    cases hp
  have hrun : (w.drop m).Pairwise (fun a b => p b = true → p a = true) :=
    List.pairwise_iff_getElem.mpr fun j k hj hk hjk hp => by
      rw [List.length_drop] at hk
      rw [List.getElem_drop] at hp ⊢
      exact h2 (m + j) (m + k) (Nat.add_lt_of_lt_sub' hk) (Nat.le_add_right m j)
        (Nat.add_le_add_left (Nat.le_of_lt hjk) m) hp
  conv => lhs; rw [← List.take_append_drop m w]
  rw [List.filter_append, hpre, List.nil_append, filter_eq_takeWhile p _ hrun]

theorem filter_zipIdx_fst {α : Type} (q : α → Bool) (l : List α) (a : Nat) :
    ((l.zipIdx a).filter (fun pi => q pi.1)).map (·.1) = l.filter q := by
  have h : ((l.zipIdx a).map Prod.fst).filter q = ((l.zipIdx a).filter (q ∘ Prod.fst)).map Prod.fst :=
    List.filter_map
  rw [List.zipIdx_map_fst] at h
  exact h.symm

theorem filterMap_congr_mem {α β : Type} {f g : α → Option β} {l : List α} (h : ∀ x ∈ l, f x = g x) :
    l.filterMap f = l.filterMap g := by
  induction l with
  | nil => rfl
  | cons a t ih =>
    rw [List.filterMap_cons, List.filterMap_cons, h a List.mem_cons_self,
      ih (fun x hx => h x (List.mem_cons_of_mem _ hx))]

theorem length_filter_add_not {α : Type} (f : α → Bool) (l : List α) :
    (l.filter f).length + (l.filter (fun x => !f x)).length = l.length := by
  rw [List.length_eq_countP_add_countP f (l := l), List.countP_eq_length_filter, List.countP_eq_length_filter]
  congr 3
  funext x; cases f x <;> rfl

theorem filter_not_of_none {α : Type} (sel : α → Bool) (l : List α) (h : (l.filter sel).length = 0) :
    l.filter (fun p => !sel p) = l :=
  List.filter_eq_self.mpr fun a ha => by
    simpa using List.filter_eq_nil_iff.mp (List.eq_nil_of_length_eq_zero h) a ha

theorem filter_not_of_all {α : Type} (sel : α → Bool) (l : List α) (h : (l.filter sel).length = l.length) :
    l.filter (fun p => !sel p) = [] :=
  List.filter_eq_nil_iff.mpr fun a ha => by simpa using List.length_filter_eq_length_iff.mp h a ha

theorem filter_lt_succ (items : List Nat) (i : Nat) (h : i ∈ items) :
    (items.filter (· < i)).length < (items.filter (· < i + 1)).length := by
  have : items.filter (· < i) = (items.filter (· < i + 1)).filter (· < i) := by
    rw [List.filter_filter]
    apply List.filter_congr
    intro a _
    by_cases h1 : a < i
    · simp [h1]; omega
    · simp [h1]
  rw [this]
  exact List.length_filter_lt_length_iff_exists.mpr ⟨i, List.mem_filter.mpr ⟨h, by simp⟩, by simp⟩

theorem superset_of_length {α : Type} [DecidableEq α] (a b : List α) (ha : a.Nodup) (hsub : a ⊆ b)
    (hlen : b.length ≤ a.length) : b ⊆ a := by
  intro x hx
  apply Classical.byContradiction
  intro hxa
  have hs : a ⊆ b.erase x := fun y hy =>
    (List.mem_erase_of_ne (by rintro rfl; exact hxa hy)).2 (hsub hy)
  have h1 := ha.length_le_of_subset hs
  have h2 : (b.erase x).length = b.length - 1 := by rw [List.length_erase]; simp [hx]
  have h3 : 0 < b.length := List.length_pos_of_mem hx
  omega

theorem pairwise_zipIdx_snd {α : Type} (l : List α) (a : Nat) :
    (l.zipIdx a).Pairwise (fun x y => x.2 < y.2) := by
  have : ((l.zipIdx a).map (·.2)).Pairwise (· < ·) := by
    rw [List.zipIdx_map_snd]; exact List.pairwise_lt_range' 1
  exact List.pairwise_map.mp this

theorem getElem_zip_fst {ts : List Int} {pos : List Nat} (j : Nat) (hj : j < (ts.zip pos).length) :
    ((ts.zip pos)[j]).1 = ts[j]'(by simp at hj; omega) := by
  rw [List.getElem_zip]

theorem le_getLast (ts : List Int) (hs : ts.Pairwise (· ≤ ·)) (t : Int) (ht : ts.getLast? = some t)
    (a : Int) (ha : a ∈ ts) : a ≤ t := by
  obtain ⟨ys, rfl⟩ := List.getLast?_eq_some_iff.mp ht
  rw [List.pairwise_append] at hs
  rcases List.mem_append.mp ha with h | h
  · exact hs.2.2 a h t (List.mem_singleton.mpr rfl)
  · exact List.mem_singleton.mp h ▸ Int.le_refl _

theorem sorted_le (ts : List Int) (hs : ts.Pairwise (· ≤ ·)) (j k : Nat) (hjk : j ≤ k)
    (hk : k < ts.length) : ts[j]'(Nat.lt_of_le_of_lt hjk hk) ≤ ts[k] := by
  rcases Nat.lt_or_eq_of_le hjk with h | h
  · exact List.pairwise_iff_getElem.mp hs j k (Nat.lt_trans h hk) hk h
  · subst h
    exact Int.le_refl _

theorem cnt_self (keep : Nat → Bool) (a : Nat) : cnt keep a a = 0 := by
  rw [cnt, Nat.sub_self]; rfl

theorem cnt_succ_left (keep : Nat → Bool) (a i : Nat) (h : a < i) :
    cnt keep a i = (if keep a then 1 else 0) + cnt keep (a + 1) i := by
  have e : i - a = (i - (a + 1)) + 1 := by
    rw [Nat.sub_succ]
    exact (Nat.succ_pred_eq_of_pos (Nat.sub_pos_of_lt h)).symm
  unfold cnt
  rw [e, List.range'_succ, List.filter_cons]
  split
  · rw [List.length_cons, Nat.add_comm]
  · rw [Nat.zero_add]

theorem cnt_succ_right (keep : Nat → Bool) (a i : Nat) (h : a ≤ i) :
    cnt keep a (i + 1) = cnt keep a i + (if keep i then 1 else 0) := by
  unfold cnt
  rw [Nat.succ_sub h, List.range'_concat, List.filter_append, List.length_append, Nat.one_mul,
    Nat.add_sub_cancel' h]
  cases hk : keep i <;> simp [hk]

theorem keepIdx_eq_filter {α : Type} (keep : Nat → Bool) (l : List α) (a : Nat) :
    keepIdx keep l a = ((l.zipIdx a).filter (fun pi => keep pi.2)).map (·.1) := by
  induction l generalizing a with
  | nil => rfl
  | cons x t ih =>
    rw [keepIdx, List.zipIdx_cons, List.filter_cons, ih]
    cases keep a <;> rfl

/-- a kept row moves to the number of kept rows before it (counted from any `a₀` at or before the
    start, so that the count does not have to be re-based along the list) -/
theorem zipIdx_keepIdx {α : Type} (keep : Nat → Bool) (l : List α) (a₀ a b : Nat) (h : a₀ ≤ a) :
    (keepIdx keep l a).zipIdx (b + cnt keep a₀ a) =
      ((l.zipIdx a).filter (fun pi => keep pi.2)).map (fun pi => (pi.1, b + cnt keep a₀ pi.2)) := by
  induction l generalizing a with
  | nil => rfl
  | cons x t ih =>
    have iht := ih (a + 1) (Nat.le_succ_of_le h)
    rw [cnt_succ_right keep a₀ a h] at iht
    rw [keepIdx, List.zipIdx_cons, List.filter_cons]
    cases hk : keep a with
    | true => simpa [hk, Nat.add_assoc] using iht
    | false => simpa [hk] using iht

theorem zipIdx_keepIdx_zero {α : Type} (keep : Nat → Bool) (l : List α) :
    (keepIdx keep l 0).zipIdx =
      (l.zipIdx.filter (fun pi => keep pi.2)).map (fun pi => (pi.1, cnt keep 0 pi.2)) := by
  have h := zipIdx_keepIdx keep l 0 0 0 (Nat.le_refl _)
  simpa [cnt_self] using h

/-- `r` lists, each once, the positions of `l` whose element satisfies `P`: what every search of the index returns -/
structure Selects {α : Type} (r : List Nat) (l : List α) (P : α → Bool) : Prop where
  nodup : r.Nodup
  mem : ∀ i, i ∈ r ↔ ∃ hi : i < l.length, P l[i] = true

theorem selects_range {α : Type} (l : List α) : Selects (List.range l.length) l (fun _ => true) :=
  ⟨List.nodup_range, fun i => by simp⟩

theorem Selects.inter {α : Type} {a b : List Nat} {l : List α} {P Q : α → Bool} (ha : Selects a l P)
    (hb : Selects b l Q) : Selects (Index.inter a b) l (fun p => P p && Q p) := by
  refine ⟨ha.nodup.sublist List.filter_sublist, fun i => ?_⟩
  simp only [Index.inter, List.mem_filter, List.contains_iff_mem, ha.mem, hb.mem, Bool.and_eq_true]
  exact ⟨fun ⟨⟨hi, x⟩, ⟨_, y⟩⟩ => ⟨hi, x, y⟩, fun ⟨hi, x, y⟩ => ⟨⟨hi, x⟩, ⟨hi, y⟩⟩⟩

theorem Selects.union {α : Type} {a b : List Nat} {l : List α} {P Q : α → Bool} (ha : Selects a l P)
    (hb : Selects b l Q) : Selects (Index.union a b) l (fun p => P p || Q p) := by
  refine ⟨nodup_dedup _, fun i => ?_⟩
  simp only [Index.union, mem_dedup, List.mem_append, ha.mem, hb.mem, Bool.or_eq_true]
  exact ⟨fun h => h.elim (fun ⟨hi, x⟩ => ⟨hi, Or.inl x⟩) (fun ⟨hi, y⟩ => ⟨hi, Or.inr y⟩),
    fun ⟨hi, h⟩ => h.elim (fun x => Or.inl ⟨hi, x⟩) (fun y => Or.inr ⟨hi, y⟩)⟩

theorem Selects.compl {α : Type} {a : List Nat} {l : List α} {P : α → Bool} (ha : Selects a l P) :
    Selects (Index.compl l.length a) l (fun p => !P p) := by
  refine ⟨List.nodup_range.sublist List.filter_sublist, fun i => ?_⟩
  simp only [Index.compl, List.mem_filter, List.mem_range, Bool.not_eq_true', List.contains_eq_mem,
    decide_eq_false_iff_not, ha.mem]
  constructor
  · rintro ⟨hi, hn⟩
    exact ⟨hi, Bool.eq_false_iff.mpr fun hp => hn ⟨hi, hp⟩⟩
  · rintro ⟨hi, hp⟩
    exact ⟨hi, fun ⟨_, hp'⟩ => Bool.eq_false_iff.mp hp hp'⟩

/-- the positions of `l` whose element satisfies `P`, ascending: the canonical list with `Selects`, used to count -/
def posOf {α : Type} (P : α → Bool) (l : List α) : List Nat := (l.zipIdx.filter (fun pi => P pi.1)).map (·.2)

theorem posOf_nodup {α : Type} (P : α → Bool) (l : List α) : (posOf P l).Nodup := by
  have h : (l.zipIdx.map (·.2)).Nodup := by
    rw [List.zipIdx_map_snd]; exact List.nodup_range' 1
  exact h.sublist (List.filter_sublist.map _)

theorem mem_posOf {α : Type} (P : α → Bool) (l : List α) (i : Nat) :
    i ∈ posOf P l ↔ ∃ hi : i < l.length, P l[i] = true := by
  simp only [posOf, List.mem_map, List.mem_filter]
  constructor
  · rintro ⟨⟨x, j⟩, ⟨hmem, hp⟩, rfl⟩
    obtain ⟨hj, hx⟩ := List.mem_zipIdx' hmem
    exact ⟨hj, by rw [← hx]; exact hp⟩
  · rintro ⟨hi, hp⟩
    exact ⟨(l[i], i), ⟨List.mk_mem_zipIdx_iff_getElem?.mpr (List.getElem?_eq_getElem hi), hp⟩, rfl⟩

theorem posOf_length {α : Type} (P : α → Bool) (l : List α) : (posOf P l).length = (l.filter P).length := by
  rw [posOf, List.length_map, ← filter_zipIdx_fst P l 0, List.length_map]

theorem Selects.length_eq {α : Type} {l : List α} {P : α → Bool} {items : List Nat} (h : Selects items l P) :
    items.length = (l.filter P).length := by
  rw [← posOf_length]
  apply List.Perm.length_eq
  rw [List.perm_ext_iff_of_nodup h.nodup (posOf_nodup P l)]
  intro i
  rw [h.mem, mem_posOf]

/-- `rowsAt`: the rows at the given positions, in storage order; the `take` cuts nothing -/
theorem Selects.rowsAt_eq {α : Type} {l : List α} {P : α → Bool} {items : List Nat} (h : Selects items l P) :
    ((l.zipIdx.filter (fun pi => items.contains pi.2)).map (·.1)).take items.length = l.filter P := by
  have h1 : l.zipIdx.filter (fun pi => items.contains pi.2) = l.zipIdx.filter (fun pi => P pi.1) :=
    List.filter_congr fun ⟨x, j⟩ hmem => by
      obtain ⟨hj, hx⟩ := List.mem_zipIdx' hmem
      rw [Bool.eq_iff_iff, List.contains_iff_mem, h.mem, hx]
      exact ⟨fun ⟨_, h⟩ => h, fun h => ⟨hj, h⟩⟩
  rw [h1, filter_zipIdx_fst, h.length_eq]
  exact List.take_of_length_le (Nat.le_refl _)

end TinyFlux.Model
