import TinyFlux.Lemmas.Search
/-!
# What a represented index answers to the getters

`Index.get_measurements / get_tag_keys / get_field_keys / get_field_values / get_timestamps / get_tag_values`
on an index that represents `l`, in terms of `l` alone. The restriction to a measurement goes through
`measItems` (the positions of its rows) and `meets`; an unknown measurement makes every restricted answer empty.
`get_tag_values` — in the index and on the scan path of `database.py` — is a fold of `addTV` over a list of
(key, value) entries; `tvSpec_of_fold` says what such a fold returns from which entries there are.
-/
namespace TinyFlux.Model
open TinyFlux.Spec

theorem getMeasurements_spec (idx : Index) (l : List Point) (h : Represents idx l) :
    idx.getMeasurements.Nodup ∧ ∀ s, s ∈ idx.getMeasurements ↔ ∃ p ∈ l, p.meas = s := by
  refine ⟨h.wfMeas.1, fun s => ?_⟩
  unfold Index.getMeasurements
  rw [h.mapsRep.meas.mem_keys]
  simp only [carryMeas_isSome]

theorem hasMeas_eq_true_iff (idx : Index) (l : List Point) (h : Represents idx l) (name : String) :
    idx.hasMeas name = true ↔ ∃ p ∈ l, p.meas = name := by
  unfold Index.hasMeas
  rw [lookupAL_isSome, h.mapsRep.meas.mem_keys]
  simp only [carryMeas_isSome]

theorem hasMeas_spec (idx : Index) (l : List Point) (h : Represents idx l) (name : String) :
    idx.hasMeas name = l.any (fun p => p.meas == name) := by
  rw [Bool.eq_iff_iff, hasMeas_eq_true_iff idx l h]
  simp

theorem measItems_spec (idx : Index) (l : List Point) (h : Represents idx l) (name : String) :
    (idx.measItems name).length = (l.filter (fun p => p.meas == name)).length ∧
    ∀ i, i ∈ idx.measItems name ↔ ∃ hi : i < l.length, l[i].meas = name := by
  unfold Index.measItems
  rw [h.meas]
  refine ⟨by simp [length_postFrom_carryMeas], fun i => ?_⟩
  rw [mem_postFrom0_fst]
  simp only [carryMeas_isSome]

theorem mem_meets_meas {K P : Type} [BEq K] [LawfulBEq K] (idx : Index) (l : List Point) (h : Represents idx l)
    {m : PMap K P} {c : K → Point → Option P} (hm : MapRep m c l) (name : String) (k : K) :
    (∃ ps, (k, ps) ∈ m ∧ Index.meets (idx.measItems name) (ps.map (·.1)) = true) ↔
      ∃ p ∈ l, p.meas = name ∧ (c k p).isSome = true := by
  rw [List.exists_mem_iff_exists_getElem]
  simp only [Index.meets, List.any_eq_true, List.contains_iff_mem, (measItems_spec idx l h name).2]
  constructor
  · rintro ⟨ps, hkv, i, hi, hi', hn⟩
    obtain ⟨_, hc⟩ := (hm.listed_iff_carries k i).mp ⟨ps, hkv, hi⟩
    exact ⟨i, hi', hn, hc⟩
  · rintro ⟨i, hi, hn, hc⟩
    obtain ⟨ps, hkv, hps⟩ := (hm.listed_iff_carries k i).mpr ⟨hi, hc⟩
    exact ⟨ps, hkv, i, hps, hi, hn⟩

/-! The key getters and `get_tag_values` all start from the keys of a posting map that occur in a measurement. -/

/-- the `match m` of `Index.getFieldKeys` (Model/Index.lean), for any posting map; tied by `getFieldKeys_eq`, `getTagKeys_eq`,
    `getTagValues_eq_fold` -/
def keysIn {K P : Type} (idx : Index) (m : PMap K P) : Option String → List K
  | none => keysAL m
  | some name =>
    if !idx.hasMeas name then [] else
    (m.filter (fun kv => Index.meets (idx.measItems name) (kv.2.map (·.1)))).map (·.1)

theorem nodup_keysIn {K P : Type} (idx : Index) (m : PMap K P) (wm : WFMap m) (mo : Option String) :
    (keysIn idx m mo).Nodup := by
  cases mo with
  | none => exact wm.1
  | some name =>
    simp only [keysIn]
    split
    · exact List.nodup_nil
    · exact wm.1.sublist (List.filter_sublist.map _)

theorem mem_keysIn {K P : Type} [BEq K] [LawfulBEq K] (idx : Index) (l : List Point) (h : Represents idx l)
    {m : PMap K P} {c : K → Point → Option P} (hm : MapRep m c l) (mo : Option String) (k : K) :
    k ∈ keysIn idx m mo ↔ ∃ p ∈ l, mo.all (· == p.meas) = true ∧ (c k p).isSome = true := by
  cases mo with
  | none => simp only [keysIn, hm.mem_keys, Option.all_none, true_and]
  | some name =>
    simp only [keysIn, Option.all_some, beq_iff_eq]
    by_cases hh : idx.hasMeas name = true
    · have : k ∈ (m.filter (fun kv => Index.meets (idx.measItems name) (kv.2.map (·.1)))).map (·.1) ↔
          ∃ ps, (k, ps) ∈ m ∧ Index.meets (idx.measItems name) (ps.map (·.1)) = true := by
        simp only [List.mem_map, List.mem_filter]
        exact ⟨fun ⟨⟨k', ps⟩, hkv, e⟩ => e ▸ ⟨ps, hkv⟩, fun ⟨ps, hkv⟩ => ⟨_, hkv, rfl⟩⟩
      simp only [hh, Bool.not_true, Bool.false_eq_true, if_false, this, mem_meets_meas idx l h hm]
      exact ⟨fun ⟨p, hp, hn, hc⟩ => ⟨p, hp, hn.symm, hc⟩, fun ⟨p, hp, hn, hc⟩ => ⟨p, hp, hn.symm, hc⟩⟩
    · simp only [hh, Bool.not_false, if_true, List.not_mem_nil, false_iff]
      rintro ⟨p, hp, hn, _⟩
      exact hh ((hasMeas_eq_true_iff idx l h name).mpr ⟨p, hp, hn.symm⟩)

theorem getFieldKeys_eq (idx : Index) (mo : Option String) : idx.getFieldKeys mo = keysIn idx idx.fields mo := by
  cases mo <;> rfl

theorem getTagKeys_eq (idx : Index) (mo : Option String) :
    idx.getTagKeys mo = dedup ((keysIn idx idx.tags mo).map (·.1)) := by
  cases mo with
  | none =>
    simp only [Index.getTagKeys, keysIn, keysAL, List.map_map]
    rfl
  | some name =>
    simp only [Index.getTagKeys, keysIn]
    split
    · rfl
    · rw [List.map_map]
      rfl

theorem getTagKeys_spec (idx : Index) (l : List Point) (h : Represents idx l)
    (m : Option String) :
    (idx.getTagKeys m).Nodup ∧
    ∀ k, k ∈ idx.getTagKeys m ↔ ∃ p ∈ l, m.all (· == p.meas) = true ∧ k ∈ p.tags.map (·.1) := by
  rw [getTagKeys_eq]
  refine ⟨nodup_dedup _, fun k => ?_⟩
  simp only [← exists_lookup_iff_mem_keys]
  simp only [mem_dedup, List.mem_map, Prod.exists, exists_and_right, exists_eq_right,
    mem_keysIn idx l h h.mapsRep.tags, carryTag_isSome]
  exact ⟨fun ⟨v, p, hp, hn, hv⟩ => ⟨p, hp, hn, v, hv⟩, fun ⟨p, hp, hn, v, hv⟩ => ⟨v, p, hp, hn, hv⟩⟩

theorem getFieldKeys_spec (idx : Index) (l : List Point) (h : Represents idx l)
    (m : Option String) :
    (idx.getFieldKeys m).Nodup ∧
    ∀ k, k ∈ idx.getFieldKeys m ↔ ∃ p ∈ l, m.all (· == p.meas) = true ∧ k ∈ p.fields.map (·.1) := by
  rw [getFieldKeys_eq]
  refine ⟨nodup_keysIn idx _ h.wfFields m, fun k => ?_⟩
  simp only [mem_keysIn idx l h h.mapsRep.fields, carryField, lookup_isSome_iff]

theorem contains_measItems (idx : Index) (l : List Point) (h : Represents idx l) (name : String)
    (p : Point) (i : Nat) (hi : (p, i) ∈ l.zipIdx) : (idx.measItems name).contains i = (name == p.meas) := by
  have hmem := List.mem_zipIdx' hi
  rw [Bool.eq_iff_iff, List.contains_iff_mem, (measItems_spec idx l h name).2, beq_iff_eq, hmem.2]
  exact ⟨fun ⟨_, e⟩ => e.symm, fun e => ⟨hmem.1, e.symm⟩⟩

theorem filter_meas_of_not_hasMeas (idx : Index) (l : List Point) (h : Represents idx l) (name : String)
    (hh : ¬ idx.hasMeas name = true) : l.filter (fun p => name == p.meas) = [] :=
  List.filter_eq_nil_iff.mpr fun p hp e =>
    hh ((hasMeas_eq_true_iff idx l h name).mpr ⟨p, hp, (beq_iff_eq.mp e).symm⟩)

theorem getFieldValues_spec (idx : Index) (l : List Point) (h : Represents idx l)
    (k : String) (m : Option String) :
    idx.getFieldValues k m =
      (l.filter (fun p => m.all (· == p.meas))).filterMap (fun p => p.fields.lookup k) := by
  cases m with
  | none =>
    have := postFrom_filter_map_snd (carryField k) (fun _ => true) (fun _ => true) l 0 (fun _ _ _ => rfl)
    rw [List.filter_eq_self.mpr (fun _ _ => rfl)] at this
    simp only [Index.getFieldValues, Option.all_none, h.fields]
    exact this
  | some name =>
    simp only [Index.getFieldValues, Option.all_some]
    by_cases hh : idx.hasMeas name = true
    · simp only [hh, Bool.not_true, Bool.false_eq_true, if_false, h.fields]
      exact postFrom_filter_map_snd (carryField k) (idx.measItems name).contains (fun p => name == p.meas) l 0
        (contains_measItems idx l h name)
    · simp only [hh, Bool.not_false, if_true, filter_meas_of_not_hasMeas idx l h name hh, List.filterMap_nil]

theorem getTimestamps_spec (idx : Index) (l : List Point) (h : Represents idx l) (m : Option String) :
    idx.getTimestamps m = (l.filter (fun p => m.all (· == p.meas))).map (·.time) := by
  -- sorting a permutation of (a sublist of) the (time, position) pairs by position restores storage order
  have sorted : ∀ (g : Point → Bool) (q : Int × Nat → Bool), (∀ p i, (p, i) ∈ l.zipIdx → q (p.time, i) = g p) →
      (((idx.ts.zip idx.pos).filter q).mergeSort (fun a b => decide (a.2 ≤ b.2))).map (·.1)
        = (l.filter g).map (·.time) := by
    intro g q hq
    rw [sort_by_pos _ _ (h.tsPerm.filter q) (((List.pairwise_map (R := fun a b : Int × Nat => a.2 < b.2)).mpr (pairwise_zipIdx_snd l 0)).filter _),
      List.filter_map, List.map_map, ← filter_zipIdx_fst g l 0, List.map_map]
    congr 1
    exact List.filter_congr (fun ⟨p, i⟩ hi => hq p i hi)
  cases m with
  | none =>
    have := sorted (fun _ => true) (fun _ => true) (fun _ _ _ => rfl)
    rw [List.filter_eq_self.mpr (fun _ _ => rfl)] at this
    simpa [Index.getTimestamps] using this
  | some name =>
    by_cases hm : idx.hasMeas name = true
    · have := sorted (fun p => name == p.meas) (fun tp => (idx.measItems name).contains tp.2)
        (contains_measItems idx l h name)
      simpa [Index.getTimestamps, hm] using this
    · simp [Index.getTimestamps, hm, filter_meas_of_not_hasMeas idx l h name hm]

/-- the dict `get_tag_values` builds: tag key ↦ the values seen under it -/
abbrev TV := AL String (List (Option String))

/-- record value `v` under key `k` unless it is there: the local `add` of `Index.getTagValues` (Model/Index.lean) and of
    the scan path of `State.step (.getTagValues ..)` (Model/DB.lean), copied. `getTagValues_eq_fold` (its `rfl`s) ties the
    first; the second is tied where `tagValues_out` applies `scanTagValues_spec` to the output of `State.step`. -/
def addTV (acc : TV) (k : String) (v : Option String) : TV :=
  alterAL k [] (fun vs => if vs.contains v then vs else vs ++ [v]) acc

def valsAL (acc : TV) (k : String) : List (Option String) := (lookupAL k acc).getD []

theorem valsAL_addTV (acc : TV) (k : String) (v : Option String) (k' : String) :
    valsAL (addTV acc k v) k' =
      if k = k' then (if v ∈ valsAL acc k then valsAL acc k else valsAL acc k ++ [v]) else valsAL acc k' := by
  unfold valsAL addTV
  rw [lookupAL_alterAL]
  by_cases h : k = k'
  · simp [h]
  · simp [h]

theorem mem_valsAL_addTV (acc : TV) (k : String) (v : Option String) (k' : String) (v' : Option String) :
    v' ∈ valsAL (addTV acc k v) k' ↔ v' ∈ valsAL acc k' ∨ (k = k' ∧ v' = v) := by
  rw [valsAL_addTV]
  by_cases h : k = k'
  · subst h
    rw [if_pos rfl]
    by_cases hm : v ∈ valsAL acc k
    · rw [if_pos hm]
      exact ⟨Or.inl, fun h => h.elim id fun e => e.2 ▸ hm⟩
    · rw [if_neg hm, List.mem_append, List.mem_singleton]
      exact ⟨fun h => h.imp id fun e => ⟨rfl, e⟩, fun h => h.imp id fun e => e.2⟩
  · rw [if_neg h]
    exact ⟨Or.inl, fun h' => h'.elim id fun e => absurd e.1 h⟩

theorem nodup_valsAL_addTV (acc : TV) (k : String) (v : Option String) (k' : String)
    (h : (valsAL acc k').Nodup) (hk : (valsAL acc k).Nodup) : (valsAL (addTV acc k v) k').Nodup := by
  rw [valsAL_addTV]
  by_cases h1 : k = k'
  · rw [if_pos h1]
    by_cases hm : v ∈ valsAL acc k
    · rw [if_pos hm]
      exact hk
    · rw [if_neg hm]
      refine List.nodup_append.mpr ⟨hk, by simp, fun a ha b hb e => hm ?_⟩
      rwa [← List.mem_singleton.mp hb, ← e]
  · rw [if_neg h1]
    exact h

/-- the invariant of the fold in `getTagValues_eq_fold` / `scanTagValues_spec` -/
theorem fold_addTV (L : List (String × Option String)) (init : TV) (hk : (keysAL init).Nodup)
    (hv : ∀ k, (valsAL init k).Nodup) :
    (keysAL (L.foldl (fun acc kv => addTV acc kv.1 kv.2) init)).Nodup ∧
    (∀ k, k ∈ keysAL (L.foldl (fun acc kv => addTV acc kv.1 kv.2) init) ↔ k ∈ keysAL init ∨ ∃ v, (k, v) ∈ L) ∧
    ∀ k, (valsAL (L.foldl (fun acc kv => addTV acc kv.1 kv.2) init) k).Nodup ∧
      ∀ v, v ∈ valsAL (L.foldl (fun acc kv => addTV acc kv.1 kv.2) init) k ↔ v ∈ valsAL init k ∨ (k, v) ∈ L := by
  induction L generalizing init with
  | nil => simp [hk, hv]
  | cons x L ih =>
    obtain ⟨k0, v0⟩ := x
    obtain ⟨h1, h2, h3⟩ := ih (addTV init k0 v0) (nodup_keys_alterAL _ _ _ _ hk)
      (fun k => nodup_valsAL_addTV init k0 v0 k (hv k) (hv k0))
    refine ⟨h1, fun k => ?_, fun k => ⟨(h3 k).1, fun v => ?_⟩⟩
    · rw [List.foldl_cons, h2, addTV, mem_keysAL_alterAL]
      simp only [List.mem_cons, Prod.mk.injEq, exists_or, exists_and_left, exists_eq, and_true, or_assoc]
    · rw [List.foldl_cons, (h3 k).2, mem_valsAL_addTV]
      simp only [List.mem_cons, Prod.mk.injEq, or_assoc, eq_comm (a := k0)]

/-- what both paths of `get_tag_values` establish about the dict they return -/
structure TVSpec (l : List Point) (keys : List String) (m : Option String) (R : TV) : Prop where
  nodup_keys : (keysAL R).Nodup
  mem_keys : ∀ k, k ∈ keysAL R ↔ k ∈ (if keys.isEmpty then tagKeys l m else sortStr keys.eraseDups)
  vals : ∀ k vs, (k, vs) ∈ R → vs.Nodup ∧
    ∀ v, v ∈ vs ↔ ∃ p ∈ l, m.all (· == p.meas) = true ∧ p.tags.lookup k = some v

theorem valsAL_init (ks : List String) (k : String) :
    valsAL (ks.map (fun k => (k, ([] : List (Option String))))) k = [] := by
  induction ks with
  | nil => rfl
  | cons a t ih =>
    unfold valsAL at *
    simp only [List.map_cons, lookupAL]
    split
    · rfl
    · exact ih

theorem tvSpec_of_fold (l : List Point) (keys : List String) (m : Option String)
    (init : TV) (L : List (String × Option String))
    (hk : (keysAL init).Nodup) (hkinit : ∀ k, k ∈ keysAL init ↔ k ∈ keys) (hvinit : ∀ k, valsAL init k = [])
    (hmemL : ∀ k v, (k, v) ∈ L ↔
      (∃ p ∈ l, m.all (· == p.meas) = true ∧ p.tags.lookup k = some v) ∧ (keys.isEmpty = true ∨ k ∈ keys)) :
    TVSpec l keys m (L.foldl (fun acc kv => addTV acc kv.1 kv.2) init) := by
  obtain ⟨h1, h2, h3⟩ := fold_addTV L init hk (fun k => by rw [hvinit]; exact List.nodup_nil)
  have hkeys : ∀ k, k ∈ keysAL (L.foldl (fun acc kv => addTV acc kv.1 kv.2) init) ↔
      k ∈ (if keys.isEmpty then tagKeys l m else sortStr keys.eraseDups) := by
    intro k
    rw [h2, hkinit]
    by_cases he : keys.isEmpty = true
    · -- no keys asked for: the keys are those of the entries
      have hk0 : k ∉ keys := by rw [List.isEmpty_iff.mp he]; exact List.not_mem_nil
      rw [if_pos he]
      simp only [hk0, false_or, hmemL, he, true_or, and_true, tagKeys, mem_sortStr, List.mem_eraseDups, restrict,
        List.mem_flatMap, List.mem_filter, and_assoc, ← exists_lookup_iff_mem_keys]
      exact ⟨fun ⟨v, p, hp, hm, hv⟩ => ⟨p, hp, hm, v, hv⟩, fun ⟨p, hp, hm, v, hv⟩ => ⟨v, p, hp, hm, hv⟩⟩
    · -- the keys asked for are there from the start, and every entry is under one of them
      rw [if_neg he, mem_sortStr, List.mem_eraseDups]
      exact ⟨fun h => h.elim id fun ⟨v, hv⟩ => ((hmemL k v).1 hv).2.resolve_left he, Or.inl⟩
  refine ⟨h1, hkeys, fun k vs hmem => ?_⟩
  have hvs : valsAL (L.foldl (fun acc kv => addTV acc kv.1 kv.2) init) k = vs := by
    rw [valsAL, lookupAL_of_mem _ h1 k vs hmem]
    rfl
  -- `k` is a key of the result: one asked for, or that of an entry
  have hok : keys.isEmpty = true ∨ k ∈ keys :=
    ((h2 k).1 ((mem_keysAL_iff _ k).2 ⟨vs, hmem⟩)).elim (fun h => .inr ((hkinit k).1 h))
      fun ⟨v, hv⟩ => ((hmemL k v).1 hv).2
  rw [← hvs]
  refine ⟨(h3 k).1, fun v => ?_⟩
  rw [(h3 k).2, hvinit, hmemL]
  simp only [List.not_mem_nil, false_or]
  exact ⟨fun h => h.1, fun h => ⟨h, hok⟩⟩

theorem scanTagValues_spec (l : List Point) (hwf : ∀ p ∈ l, WFPoint p) (keys : List String) (m : Option String) :
    TVSpec l keys m ((restrict l m).foldl (fun acc p => p.tags.foldl (fun acc kv =>
        if !keys.isEmpty && !keys.contains kv.1 then acc else addTV acc kv.1 kv.2) acc)
      ((sortStr (dedup keys)).map (fun k => (k, [])))) := by
  have hG : (fun (acc : TV) (kv : String × Option String) =>
        if !keys.isEmpty && !keys.contains kv.1 then acc else addTV acc kv.1 kv.2) =
      (fun acc kv => if (keys.isEmpty || keys.contains kv.1) = true then addTV acc kv.1 kv.2 else acc) := by
    funext acc kv
    cases keys.isEmpty <;> cases keys.contains kv.1 <;> simp
  rw [hG, ← List.foldl_flatMap (f := fun p : Point => p.tags), ← List.foldl_filter]
  refine tvSpec_of_fold l keys m _ _
    (by simpa [keysAL, Function.comp_def] using nodup_sortStr _ (nodup_dedup keys))
    (fun k => by simp [keysAL, Function.comp_def, mem_sortStr, mem_dedup]) (valsAL_init _) (fun k v => ?_)
  simp only [List.mem_filter, List.mem_flatMap, restrict, Bool.or_eq_true, List.contains_iff_mem, and_assoc]
  constructor
  · rintro ⟨⟨p, hp, hm, ht⟩, hk⟩
    exact ⟨⟨p, hp, hm, (lookup_iff_mem _ (hwf p hp).1 k v).2 ht⟩, hk⟩
  · rintro ⟨⟨p, hp, hm, ht⟩, hk⟩
    exact ⟨⟨p, hp, hm, (lookup_iff_mem _ (hwf p hp).1 k v).1 ht⟩, hk⟩

/-- the four cases of the code, and its early return for an unknown measurement, are one fold -/
theorem getTagValues_eq_fold (idx : Index) (keys : List String) (m : Option String) :
    idx.getTagValues keys m =
      ((keysIn idx idx.tags m).filter (fun kv => keys.isEmpty || keys.contains kv.1)).foldl
        (fun acc kv => addTV acc kv.1 kv.2) ((dedup keys).map (fun k => (k, []))) := by
  rw [List.foldl_filter]
  cases m with
  | none =>
    simp only [keysIn, keysAL, List.foldl_map]
    cases keys with
    | nil => rfl
    | cons a t => rfl
  | some name =>
    cases hh : idx.hasMeas name with
    | true =>
      simp only [keysIn, hh, Bool.not_true, Bool.false_eq_true, if_false, List.foldl_map, List.foldl_filter]
      cases keys with
      | nil =>
        simp only [Index.getTagValues, hh, List.isEmpty_nil, Bool.not_true, Bool.false_eq_true, if_false]
        rfl
      | cons a t =>
        simp only [Index.getTagValues, hh, addTV, List.isEmpty_cons, Bool.not_true, Bool.false_eq_true, if_false,
          Bool.false_or, Bool.and_eq_true]
        congr 1
        funext acc kv
        by_cases h2 : Index.meets (idx.measItems name) (kv.2.map (·.1)) = true
        · simp [h2]
        · simp [h2]
    | false =>
      simp only [keysIn, hh, Bool.not_false, if_true, List.foldl_nil]
      cases keys with
      | nil =>
        simp only [Index.getTagValues, hh, List.isEmpty_nil, Bool.not_false, if_true]
        rfl
      | cons a t =>
        simp only [Index.getTagValues, hh, List.isEmpty_cons, Bool.not_false, if_true]

theorem getTagValues_spec (idx : Index) (l : List Point) (h : Represents idx l)
    (keys : List String) (m : Option String) : TVSpec l keys m (idx.getTagValues keys m) := by
  rw [getTagValues_eq_fold]
  refine tvSpec_of_fold l keys m _ _ (by simpa [keysAL, Function.comp_def] using nodup_dedup keys)
    (fun k => by simp [keysAL, Function.comp_def, mem_dedup]) (valsAL_init _) (fun k v => ?_)
  simp only [List.mem_filter, mem_keysIn idx l h h.mapsRep.tags, carryTag_isSome, Bool.or_eq_true,
    List.contains_iff_mem]

end TinyFlux.Model
