import TinyFlux.Lemmas.Writes
/-! The refinement theorem R (`run_refines`; one step: `step_refines`, which joins `step_read_refines` and
    `step_write_refines`; from the empty database: `reachable`): on every history the Model has the Spec's contents and
    outputs and keeps `Inv`. `OpsOK`: the data of every operation is storable (`OpOK`) and no measurement argument is `""`
    (`MeasOK`). Outputs are compared up to `canon` (the key order of the one dict-valued output, `tagVals`); every other
    output is equal outright (`read_out_eq`). -/
namespace TinyFlux.Model
open TinyFlux.Spec

def runM (s : State) : List Op → State × List Out
  | [] => (s, [])
  | op :: t => let (s', o) := s.step op; let (s'', os) := runM s' t; (s'', o :: os)

/-- `Spec.run` with the outputs collected as well (not stated as a lemma) -/
def runS (db : DB) : List Op → DB × List Out
  | [] => (db, [])
  | op :: t => let (db', o) := Spec.step db op; let (db'', os) := runS db' t; (db'', o :: os)

theorem runM_append (s : State) (a b : List Op) :
    runM s (a ++ b) = ((runM (runM s a).1 b).1, (runM s a).2 ++ (runM (runM s a).1 b).2) := by
  induction a generalizing s with
  | nil => rfl
  | cons op t ih => simp [runM, ih]

def OpsOK (cfg : Cfg) (ops : List Op) : Prop := ∀ op ∈ ops, OpOK cfg op ∧ MeasOK op

theorem opsOK_nil (cfg : Cfg) : OpsOK cfg [] := fun _ h => nomatch h

theorem opsOK_cons {cfg : Cfg} {op : Op} {ops : List Op} :
    OpsOK cfg (op :: ops) ↔ (OpOK cfg op ∧ MeasOK op) ∧ OpsOK cfg ops := List.forall_mem_cons

theorem opsOK_append {cfg : Cfg} {a b : List Op} : OpsOK cfg (a ++ b) ↔ OpsOK cfg a ∧ OpsOK cfg b :=
  List.forall_mem_append

theorem step_refines (s : State) (hs : Inv s) (op : Op) (hok : OpOK s.cfg op) (hm : MeasOK op) :
    canon (s.step op).2 = canon (Spec.step s.storage op).2 ∧
    (s.step op).1.storage = (Spec.step s.storage op).1 ∧
    (s.step op).1.cfg = s.cfg ∧ Inv (s.step op).1 := by
  cases h : isRead op
  · obtain ⟨a, b, c, d⟩ := step_write_refines s hs op h hok hm
    exact ⟨by rw [a], b, c, d⟩
  · obtain ⟨a, b, c, d, _⟩ := step_read_refines s hs op h hm
    exact ⟨a, b.trans (spec_step_read s.storage op h).symm, c, d⟩

theorem run_refines (s : State) (hs : Inv s) (ops : List Op) (hok : OpsOK s.cfg ops) :
    (runM s ops).1.storage = (runS s.storage ops).1 ∧
    (runM s ops).2.map canon = (runS s.storage ops).2.map canon ∧
    (runM s ops).1.cfg = s.cfg ∧ Inv (runM s ops).1 := by
  induction ops generalizing s with
  | nil => exact ⟨rfl, rfl, rfl, hs⟩
  | cons op t ih =>
    obtain ⟨ho, hm⟩ := hok op (List.mem_cons_self)
    obtain ⟨a, b, c, d⟩ := step_refines s hs op ho hm
    have hok' : OpsOK (s.step op).1.cfg t := by
      rw [c]; exact fun o h => hok o (List.mem_cons_of_mem _ h)
    obtain ⟨e, f, g, i⟩ := ih (s.step op).1 d hok'
    simp only [runM, runS, List.map_cons]
    rw [b] at e f
    exact ⟨e, by rw [a, f], g.trans c, i⟩

theorem init_inv (cfg : Cfg) : Inv (init cfg) := ⟨by simp [init], fun _ => Writes.represents_empty⟩

theorem reachable (cfg : Cfg) (ops : List Op) (hok : OpsOK cfg ops) :
    Inv (runM (init cfg) ops).1 ∧ (runM (init cfg) ops).1.storage = (runS [] ops).1 ∧
    (runM (init cfg) ops).2.map canon = (runS [] ops).2.map canon := by
  obtain ⟨a, b, _, d⟩ := run_refines (init cfg) (init_inv cfg) ops hok
  exact ⟨d, a, b⟩

theorem canon_of_not_tagVals {b : Out} (hb : ∀ l, b ≠ .tagVals l) : canon b = b := by
  cases b <;> first | rfl | exact absurd rfl (hb _)

theorem eq_of_canon_eq (a b : Out) (hb : ∀ l, b ≠ .tagVals l) (h : canon a = canon b) : a = b := by
  rw [canon_of_not_tagVals hb] at h
  cases a with
  | tagVals l => exact absurd h.symm (hb _)
  | _ => exact h

/-- For a concrete read, `hr` is `rfl` and `hb` is `nofun` (the Spec's output unfolds to a constructor other than
    `tagVals`): the property theorems about reads are `read_out_eq s hs op rfl hm nofun`. -/
theorem read_out_eq (s : State) (hs : Inv s) (op : Op) (hr : isRead op = true) (hm : MeasOK op)
    (hb : ∀ l, (Spec.step s.storage op).2 ≠ .tagVals l) :
    (s.step op).2 = (Spec.step s.storage op).2 :=
  eq_of_canon_eq _ _ hb (step_read_refines s hs op hr hm).1

end TinyFlux.Model
