import TinyFlux.Lemmas.Basics
/-!
# Posting lists and posting maps

`postFrom c l a` is a `filterMap` over `l.zipIdx a` (`postFrom_eq_filterMap`), so membership, order, append and the
renumbering after a removal come from the corresponding facts about `zipIdx`. `PMap.insert / remove / renumber` are
described by what they do to the posting list of a key and to well-formedness. `MapRep m c l`: `m` is the posting map
of `l` for the keys that `c` says a point carries; the three maps of the index are three instances (`MapsRep`), and
`MapRep.snoc` / `MapRep.remove_renumber` are what the loops of the index operations do to one of them.
-/
namespace TinyFlux.Model
open TinyFlux.Spec

/-- what the point `pi.1` at position `pi.2` contributes to a posting list -/
def entry {β : Type} (c : Point → Option β) (pi : Point × Nat) : Option (Nat × β) :=
  (c pi.1).map (fun b => (pi.2, b))

theorem postFrom_eq_filterMap {β : Type} (c : Point → Option β) (l : List Point) (a : Nat) :
    postFrom c l a = (l.zipIdx a).filterMap (entry c) := by
  induction l generalizing a with
  | nil => rfl
  | cons p t ih =>
    rw [postFrom, List.zipIdx_cons, List.filterMap_cons, ← ih]
    unfold entry
    cases c p <;> rfl

theorem mem_postFrom {β : Type} (c : Point → Option β) (l : List Point) (a i : Nat) (b : β) :
    (i, b) ∈ postFrom c l a ↔ a ≤ i ∧ ∃ p, l[i - a]? = some p ∧ c p = some b := by
  rw [postFrom_eq_filterMap]
  simp only [List.mem_filterMap, entry, Option.map_eq_some_iff, Prod.mk.injEq, Prod.exists,
    List.mk_mem_zipIdx_iff_le_and_getElem?_sub]
  constructor
  · rintro ⟨p, j, ⟨hj, hp⟩, b', hc, rfl, rfl⟩
    exact ⟨hj, p, hp, hc⟩
  · rintro ⟨hi, p, hp, hc⟩
    exact ⟨p, i, ⟨hi, hp⟩, b, hc, rfl, rfl⟩

theorem mem_postFrom0 {β : Type} (c : Point → Option β) (l : List Point) (i : Nat) (b : β) :
    (i, b) ∈ postFrom c l 0 ↔ ∃ h : i < l.length, c l[i] = some b := by
  rw [mem_postFrom, Nat.sub_zero]
  constructor
  · rintro ⟨_, p, hp, hc⟩
    obtain ⟨hi, rfl⟩ := List.getElem?_eq_some_iff.mp hp
    exact ⟨hi, hc⟩
  · rintro ⟨hi, hc⟩
    exact ⟨Nat.zero_le _, _, List.getElem?_eq_getElem hi, hc⟩

theorem mem_postFrom0_fst {β : Type} (c : Point → Option β) (l : List Point) (i : Nat) :
    i ∈ (postFrom c l 0).map (·.1) ↔ ∃ h : i < l.length, (c l[i]).isSome = true := by
  simp only [List.mem_map, Prod.exists, exists_and_right, exists_eq_right, mem_postFrom0,
    Option.isSome_iff_exists]
  exact ⟨fun ⟨b, h, hb⟩ => ⟨h, b, hb⟩, fun ⟨h, b, hb⟩ => ⟨b, h, hb⟩⟩

theorem postFrom_pairwise {β : Type} (c : Point → Option β) (l : List Point) (a : Nat) :
    (postFrom c l a).Pairwise (fun x y => x.1 < y.1) := by
  rw [postFrom_eq_filterMap]
  refine List.Pairwise.filterMap _ ?_ (pairwise_zipIdx_snd l a)
  rintro ⟨p, i⟩ ⟨q, j⟩ hij x hx y hy
  simp only [entry, Option.map_eq_some_iff] at hx hy
  obtain ⟨_, _, rfl⟩ := hx
  obtain ⟨_, _, rfl⟩ := hy
  exact hij

theorem postFrom_append_one {β : Type} (c : Point → Option β) (l : List Point) (p : Point) (a : Nat) :
    postFrom c (l ++ [p]) a = postFrom c l a ++ (entry c (p, a + l.length)).toList := by
  simp only [postFrom_eq_filterMap, List.zipIdx_append, List.filterMap_append, List.zipIdx_cons,
    List.zipIdx_nil, List.filterMap_cons, List.filterMap_nil]
  cases entry c (p, a + l.length) <;> rfl

theorem postFrom_ne_nil_iff {β : Type} (c : Point → Option β) (l : List Point) (a : Nat) :
    postFrom c l a ≠ [] ↔ ∃ p ∈ l, (c p).isSome := by
  induction l generalizing a with
  | nil => simp [postFrom]
  | cons x t ih =>
    rw [postFrom]
    cases hc : c x with
    | none => simp [hc, ih]
    | some b => simp [hc]

theorem postFrom_keepIdx {β : Type} (c : Point → Option β) (keep : Nat → Bool) (l : List Point)
    (a b : Nat) :
    postFrom c (keepIdx keep l a) b
      = ((postFrom c l a).filter (fun ip => keep ip.1)).map (fun ip => (b + cnt keep a ip.1, ip.2)) := by
  have h := zipIdx_keepIdx keep l a a b (Nat.le_refl _)
  rw [cnt_self, Nat.add_zero] at h
  rw [postFrom_eq_filterMap, postFrom_eq_filterMap, h, List.filterMap_map, List.filter_filterMap,
    List.map_filterMap, List.filterMap_filter]
  apply filterMap_congr_mem
  rintro ⟨p, i⟩ _
  simp only [entry, Function.comp]
  cases c p <;> cases hk : keep i <;> simp [hk, Option.filter]

theorem postFrom_filter_map_snd {β : Type} (c : Point → Option β) (f : Nat → Bool) (g : Point → Bool)
    (l : List Point) (a : Nat) (hfg : ∀ p i, (p, i) ∈ l.zipIdx a → f i = g p) :
    ((postFrom c l a).filter (fun ip => f ip.1)).map (·.2) = (l.filter g).filterMap c := by
  rw [← filter_zipIdx_fst g l a, postFrom_eq_filterMap, List.filter_filterMap, List.map_filterMap, List.filterMap_map,
    List.filterMap_filter]
  apply filterMap_congr_mem
  rintro ⟨p, i⟩ hm
  simp only [entry, Function.comp, ← hfg p i hm]
  cases c p <;> cases hf : f i <;> simp [hf, Option.filter]

/-- `PMap.remove` for values of any element type: the form the translated `_remove_*` loops have (`Mirror/Maps.lean`) -/
def remq {K α : Type} (q : α → Bool) (m : AL K (List α)) : AL K (List α) :=
  m.filterMap fun kv => if (kv.2.filter q).isEmpty then none else some (kv.1, kv.2.filter q)

theorem remq_cons {K α : Type} (q : α → Bool) (k : K) (v : List α) (t : AL K (List α)) :
    remq q ((k, v) :: t) =
      if (v.filter q).isEmpty then remq q t else (k, v.filter q) :: remq q t := by
  by_cases he : (v.filter q).isEmpty = true
  · simp only [remq, List.filterMap_cons, he, ↓reduceIte]
  · simp only [remq, List.filterMap_cons, he, ↓reduceIte, Bool.false_eq_true]

theorem keys_remq_sublist {K α : Type} (q : α → Bool) (m : AL K (List α)) :
    (keysAL (remq q m)).Sublist (keysAL m) := by
  induction m with
  | nil => simp [remq, keysAL]
  | cons hd t ih =>
    obtain ⟨k, v⟩ := hd
    rw [remq_cons]
    split
    · exact List.Sublist.cons _ ih
    · exact List.Sublist.cons_cons _ ih

section PM
variable {K P : Type} [BEq K] [LawfulBEq K]

omit [LawfulBEq K] in
theorem posting_cons (k' : K) (v : List (Nat × P)) (t : PMap K P) (k : K) :
    PMap.posting ((k', v) :: t) k = if k' == k then v else PMap.posting t k := by
  unfold PMap.posting
  rw [lookupAL]
  split <;> rfl

theorem posting_insert (m : PMap K P) (k k' : K) (pos : Nat) (p : P) :
    (m.insert k pos p).posting k' = m.posting k' ++ (if k == k' then [(pos, p)] else []) := by
  unfold PMap.posting PMap.insert
  rw [lookupAL_alterAL]
  by_cases hk : k = k'
  · subst hk
    rw [if_pos (beq_self_eq_true k), if_pos (beq_self_eq_true k), Option.getD_some]
  · rw [if_neg (by simpa using hk), if_neg (by simpa using hk), List.append_nil]

theorem wf_insert (m : PMap K P) (wm : WFMap m) (k : K) (pos : Nat) (p : P) :
    WFMap (m.insert k pos p) :=
  ⟨nodup_keys_alterAL _ _ _ _ wm.1,
   alterAL_all (fun v => v ≠ []) k [] _ (by simp) (fun v _ => by simp) m wm.2⟩

theorem posting_foldl_insert {α : Type} (g : α → K) (h : α → P) (n : Nat) (xs : List α)
    (m : PMap K P) (k : K) :
    (xs.foldl (fun acc x => acc.insert (g x) n (h x)) m).posting k
      = m.posting k ++ (xs.filter (fun x => g x == k)).map (fun x => (n, h x)) := by
  induction xs generalizing m with
  | nil => simp
  | cons x t ih =>
    rw [List.foldl_cons, ih, posting_insert, List.filter_cons]
    by_cases hx : (g x == k) = true
    · rw [if_pos hx, if_pos hx, List.map_cons, List.append_assoc]
      rfl
    · rw [if_neg hx, if_neg hx, List.append_nil]

theorem wf_foldl_insert {α : Type} (g : α → K) (h : α → P) (n : Nat) (xs : List α)
    (m : PMap K P) (wm : WFMap m) :
    WFMap (xs.foldl (fun acc x => acc.insert (g x) n (h x)) m) := by
  induction xs generalizing m with
  | nil => exact wm
  | cons x t ih => exact ih _ (wf_insert m wm _ _ _)

omit [BEq K] [LawfulBEq K] in
/-- `PMap.remove` is `remq` with the test on positions -/
theorem remove_cons (k' : K) (v : List (Nat × P)) (t : PMap K P) (r : Nat → Bool) :
    PMap.remove ((k', v) :: t) r =
      if (v.filter (fun ip => !r ip.1)).isEmpty then PMap.remove t r
      else (k', v.filter (fun ip => !r ip.1)) :: PMap.remove t r :=
  remq_cons _ k' v t

omit [BEq K] [LawfulBEq K] in
theorem keys_remove_sublist (m : PMap K P) (r : Nat → Bool) :
    (keysAL (m.remove r)).Sublist (keysAL m) :=
  keys_remq_sublist _ m

theorem posting_remove (m : PMap K P) (wm : (keysAL m).Nodup) (r : Nat → Bool) (k : K) :
    (m.remove r).posting k = (m.posting k).filter (fun ip => !r ip.1) := by
  induction m with
  | nil => rfl
  | cons hd t ih =>
    obtain ⟨k', v⟩ := hd
    have hnd : k' ∉ keysAL t ∧ (keysAL t).Nodup := List.nodup_cons.mp wm
    rw [remove_cons, posting_cons, apply_ite (List.filter _), ← ih hnd.2]
    by_cases he : (v.filter (fun ip => !r ip.1)).isEmpty = true
    · rw [if_pos he, List.isEmpty_iff.mp he]
      by_cases hk : (k' == k) = true
      · -- the entry goes; its key does not occur again, so what `remove` leaves of the tail has no posting for it
        rw [if_pos hk, ← eq_of_beq hk, PMap.posting,
          lookupAL_none_of_not_mem _ _ (fun hmem => hnd.1 ((keys_remove_sublist t r).subset hmem))]
        rfl
      · rw [if_neg hk]
    · rw [if_neg he, posting_cons]

omit [BEq K] [LawfulBEq K] in
theorem wf_remove (m : PMap K P) (wm : WFMap m) (r : Nat → Bool) : WFMap (m.remove r) := by
  refine ⟨(keys_remove_sublist m r).nodup wm.1, ?_⟩
  clear wm
  induction m with
  | nil => intro kv h; cases h
  | cons hd t ih =>
    obtain ⟨k', v⟩ := hd
    rw [remove_cons]
    by_cases he : (v.filter (fun ip => !r ip.1)).isEmpty = true
    · rw [if_pos he]
      exact ih
    · rw [if_neg he]
      intro kv hkv
      rcases List.mem_cons.mp hkv with rfl | h
      · exact fun e => he (List.isEmpty_iff.mpr e)
      · exact ih kv h

omit [BEq K] [LawfulBEq K] in
theorem keys_renumber (m : PMap K P) (f : Nat → Nat) : keysAL (m.renumber f) = keysAL m := by
  simp [PMap.renumber, keysAL, List.map_map, Function.comp_def]

omit [LawfulBEq K] in
theorem posting_renumber (m : PMap K P) (f : Nat → Nat) (k : K) :
    (m.renumber f).posting k = (m.posting k).map (fun ip => (f ip.1, ip.2)) := by
  induction m with
  | nil => rfl
  | cons hd t ih =>
    obtain ⟨k', v⟩ := hd
    have e : PMap.renumber ((k', v) :: t) f = (k', v.map (fun ip => (f ip.1, ip.2))) :: PMap.renumber t f := rfl
    rw [e, posting_cons, posting_cons, ih]
    split <;> rfl

omit [BEq K] [LawfulBEq K] in
theorem wf_renumber (m : PMap K P) (wm : WFMap m) (f : Nat → Nat) : WFMap (m.renumber f) := by
  refine ⟨by rw [keys_renumber]; exact wm.1, ?_⟩
  intro kv hkv
  simp only [PMap.renumber, List.mem_map] at hkv
  obtain ⟨kv0, h0, rfl⟩ := hkv
  simpa using wm.2 kv0 h0

end PM

theorem carryMeas_isSome (name : String) (p : Point) : (carryMeas name p).isSome = true ↔ p.meas = name := by
  unfold carryMeas; split <;> simp_all

theorem carryTag_isSome (kv : String × Option String) (p : Point) :
    (carryTag kv p).isSome = true ↔ p.tags.lookup kv.1 = some kv.2 := by
  unfold carryTag; split <;> simp_all

theorem length_postFrom_carryMeas (name : String) (l : List Point) (a : Nat) :
    (postFrom (carryMeas name) l a).length = (l.filter (fun p => p.meas == name)).length := by
  induction l generalizing a with
  | nil => simp [postFrom]
  | cons p t ih =>
    by_cases hp : (p.meas == name) = true
    · simp [postFrom, carryMeas, hp, ih]
    · simp [postFrom, carryMeas, hp, ih]

theorem wf_empty {K P : Type} : WFMap ([] : PMap K P) := by
  simp [WFMap, keysAL]

theorem mem_posting {K P : Type} [BEq K] [LawfulBEq K] (m : PMap K P) (hn : (keysAL m).Nodup) (k : K) (ip : Nat × P) :
    ip ∈ m.posting k ↔ ∃ e ∈ m, e.1 = k ∧ ip ∈ e.2 := by
  unfold PMap.posting
  constructor
  · intro h
    cases hl : lookupAL k m with
    | none => simp [hl] at h
    | some v => exact ⟨(k, v), mem_of_lookupAL _ _ _ hl, rfl, by simpa [hl] using h⟩
  · rintro ⟨⟨k', v⟩, he, rfl, hip⟩
    rw [lookupAL_of_mem _ hn _ _ he]
    exact hip

theorem mem_iff_posting {K P : Type} [BEq K] [LawfulBEq K] (m : PMap K P) (wm : WFMap m) (k : K) (ps : List (Nat × P)) :
    (k, ps) ∈ m ↔ (ps ≠ [] ∧ m.posting k = ps) := by
  constructor
  · intro h
    exact ⟨wm.2 _ h, by simp [PMap.posting, lookupAL_of_mem m wm.1 k ps h]⟩
  · rintro ⟨hne, hp⟩
    unfold PMap.posting at hp
    cases hl : lookupAL k m with
    | none => rw [hl] at hp; exact absurd hp.symm hne
    | some v =>
      rw [hl] at hp; simp only [Option.getD_some] at hp; subst hp
      exact mem_of_lookupAL m k v hl

/-- `m` is the posting map of `l` for the keys carried as `c` says -/
structure MapRep {K P : Type} [BEq K] (m : PMap K P) (c : K → Point → Option P) (l : List Point) : Prop where
  post : ∀ k, m.posting k = postFrom (c k) l 0
  wf : WFMap m

namespace MapRep
variable {K P : Type} [BEq K] [LawfulBEq K] {m : PMap K P} {c : K → Point → Option P} {l : List Point}

omit [LawfulBEq K] in
theorem nil : MapRep ([] : PMap K P) c [] := ⟨fun _ => rfl, wf_empty⟩

/-- appending a point whose entries `es` (keys `g`, payloads `v`) are what `c` says it carries -/
theorem snoc {α : Type} (h : MapRep m c l) (g : α → K) (v : α → P) (es : List α) (p : Point)
    (hes : ∀ k, (es.filter (fun x => g x == k)).map (fun x => (l.length, v x))
      = (entry (c k) (p, l.length)).toList) :
    MapRep (es.foldl (fun acc x => acc.insert (g x) l.length (v x)) m) c (l ++ [p]) :=
  ⟨fun k => by rw [posting_foldl_insert, h.post, hes, postFrom_append_one, Nat.zero_add],
   wf_foldl_insert g v _ es m h.wf⟩

/-- by `postFrom_keepIdx`; `f` is constrained on kept positions only -/
theorem remove_renumber (h : MapRep m c l) (keep r : Nat → Bool) (f : Nat → Nat)
    (hr : ∀ i, i < l.length → r i = !keep i)
    (hf : ∀ i, i < l.length → keep i = true → f i = cnt keep 0 i) :
    MapRep ((m.remove r).renumber f) c (keepIdx keep l 0) := by
  refine ⟨fun k => ?_, wf_renumber _ (wf_remove m h.wf r) f⟩
  rw [posting_renumber, posting_remove m h.wf.1, h.post, postFrom_keepIdx]
  have hlt : ∀ ip ∈ postFrom (c k) l 0, ip.1 < l.length := fun ip hip =>
    ((mem_postFrom0 (c k) l ip.1 ip.2).mp hip).1
  have e1 : (postFrom (c k) l 0).filter (fun ip => !r ip.1)
      = (postFrom (c k) l 0).filter (fun ip => keep ip.1) :=
    List.filter_congr (fun ip hip => by rw [hr _ (hlt ip hip), Bool.not_not])
  rw [e1]
  refine List.map_congr_left (fun ip hip => ?_)
  have h := List.mem_filter.mp hip
  rw [hf _ (hlt ip h.1) h.2, Nat.zero_add]

theorem listed_iff_carries (h : MapRep m c l) (k : K) (i : Nat) :
    (∃ ps, (k, ps) ∈ m ∧ i ∈ ps.map (·.1)) ↔ ∃ hi : i < l.length, (c k l[i]).isSome = true := by
  rw [← mem_postFrom0_fst, ← h.post]
  constructor
  · rintro ⟨ps, hkv, hi⟩
    rwa [((mem_iff_posting m h.wf k ps).mp hkv).2]
  · intro hi
    refine ⟨m.posting k, (mem_iff_posting m h.wf k _).mpr ⟨fun e => ?_, rfl⟩, hi⟩
    rw [e] at hi
    cases hi

theorem mem_keys (h : MapRep m c l) (k : K) : k ∈ keysAL m ↔ ∃ p ∈ l, (c k p).isSome := by
  rw [← postFrom_ne_nil_iff (c k) l 0, ← h.post]
  constructor
  · intro hk
    obtain ⟨ps, hmem⟩ := (mem_keysAL_iff m k).mp hk
    have := (mem_iff_posting m h.wf k ps).mp hmem
    rw [this.2]; exact this.1
  · intro hk
    exact (mem_keysAL_iff m k).mpr ⟨_, (mem_iff_posting m h.wf k (m.posting k)).mpr ⟨hk, rfl⟩⟩

/-- the left-hand side is the shape of `Index.searchMeas` / `searchTags` -/
theorem mem_hits (h : MapRep m c l) (f : K → Bool) (i : Nat) :
    i ∈ (m.map (fun kv => if f kv.1 then kv.2.map (·.1) else [])).flatten ↔
      ∃ k, f k = true ∧ ∃ h : i < l.length, (c k l[i]).isSome = true := by
  simp only [List.mem_flatten, List.mem_map]
  constructor
  · rintro ⟨_, ⟨⟨k, ps⟩, hkv, rfl⟩, hi⟩
    by_cases hf : f k = true
    · rw [if_pos hf] at hi
      exact ⟨k, hf, (h.listed_iff_carries k i).mp ⟨ps, hkv, hi⟩⟩
    · rw [if_neg hf] at hi
      cases hi
  · rintro ⟨k, hf, hi⟩
    obtain ⟨ps, hkv, hps⟩ := (h.listed_iff_carries k i).mpr hi
    exact ⟨_, ⟨(k, ps), hkv, rfl⟩, by rw [if_pos hf]; exact hps⟩

end MapRep

structure MapsRep (idx : Index) (l : List Point) : Prop where
  num : idx.numItems = l.length
  meas : MapRep idx.meas carryMeas l
  tags : MapRep idx.tags carryTag l
  fields : MapRep idx.fields carryField l

theorem MapsRep.empty : MapsRep {} [] := ⟨rfl, .nil, .nil, .nil⟩

/-- `filter_field`, `filter_tag`: the `hes` obligation of `MapRep.snoc` for one point's field / tag dict `xs` (`n` is its
    position): the entries under a key are what `entry (carryField k)` / `entry (carryTag kv)` yields -/
theorem filter_field (xs : List (String × Option Num)) (hnd : (xs.map (·.1)).Nodup) (k : String)
    (n : Nat) :
    (xs.filter (fun x => x.1 == k)).map (fun x => (n, x.2)) = ((xs.lookup k).map (fun b => (n, b))).toList := by
  rw [filter_key_lookup xs hnd]
  cases xs.lookup k <;> rfl

theorem filter_tag (xs : List (String × Option String)) (hnd : (xs.map (·.1)).Nodup)
    (kv : String × Option String) (n : Nat) :
    (xs.filter (fun x => (x.1, x.2) == kv)).map (fun _ => (n, ()))
      = ((if xs.lookup kv.1 == some kv.2 then some () else none).map (fun b => (n, b))).toList := by
  obtain ⟨a, b⟩ := kv
  have e : xs.filter (fun x => (x.1, x.2) == (a, b))
      = (xs.filter (fun x => x.1 == a)).filter (fun x => x.2 == b) := by
    rw [List.filter_filter]
    apply List.filter_congr
    intro x _
    rw [Bool.eq_iff_iff]; simp [and_comm]
  rw [e, filter_key_lookup xs hnd]
  cases h : xs.lookup a with
  | none => simp
  | some b' =>
    by_cases hb : b' = b
    · subst hb; simp
    · simp [hb]

theorem insertMaps_rest (i : Index) (n : Nat) (p : Point) :
    (i.insertMaps n p).numItems = i.numItems ∧ (i.insertMaps n p).ts = i.ts ∧
    (i.insertMaps n p).pos = i.pos ∧ (i.insertMaps n p).valid = i.valid :=
  ⟨rfl, rfl, rfl, rfl⟩

/-- the three loops of `Index.insert` / `Index.build` for one more point -/
theorem MapsRep.insertMaps {idx : Index} {l : List Point} (h : MapsRep idx l) (p : Point) (hp : WFPoint p) :
    MapsRep { (idx.insertMaps l.length p) with numItems := idx.numItems + 1 } (l ++ [p]) where
  num := by simp [h.num]
  meas := h.meas.snoc id (fun _ => ()) [p.meas] p (fun k => by
    simp only [List.filter_cons, List.filter_nil, id, entry, carryMeas]; split <;> rfl)
  tags := h.tags.snoc (fun kv : String × Option String => (kv.1, kv.2)) (fun _ => ()) p.tags p
    (fun kv => filter_tag _ hp.1 kv _)
  fields := h.fields.snoc (fun kv : String × Option Num => kv.1) (fun kv => kv.2) p.fields p
    (fun k => filter_field _ hp.2 k _)

/-- the loop of `Index.build` continues a represented prefix -/
theorem MapsRep.buildFrom {i : Index} {pre : List Point} (h : MapsRep i pre) (l : List Point)
    (hwf : ∀ p ∈ l, WFPoint p) :
    MapsRep (Index.buildFrom i l pre.length) (pre ++ l) := by
  induction l generalizing i pre with
  | nil => simpa [Index.buildFrom] using h
  | cons p t ih =>
    have := ih (h.insertMaps p (hwf p List.mem_cons_self)) (fun q hq => hwf q (List.mem_cons_of_mem _ hq))
    rw [List.length_append, List.length_singleton, List.append_assoc] at this
    exact this

end TinyFlux.Model
