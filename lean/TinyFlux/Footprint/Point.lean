import TinyFlux.Generated.Footprint
import TinyFlux.Model.Footprint

theorem TinyFlux.Footprint.point :
    Generated.classState.lookup "point.Point" = some Model.Footprint.point := by rfl
