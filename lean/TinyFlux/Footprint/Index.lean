import TinyFlux.Generated.Footprint
import TinyFlux.Model.Footprint

theorem TinyFlux.Footprint.index :
    Generated.classState.lookup "index.Index" = some Model.Footprint.index := by rfl
