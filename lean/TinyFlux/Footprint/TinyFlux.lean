import TinyFlux.Generated.Footprint
import TinyFlux.Model.Footprint

theorem TinyFlux.Footprint.tinyFlux :
    Generated.classState.lookup "database.TinyFlux" = some Model.Footprint.tinyFlux := by rfl
