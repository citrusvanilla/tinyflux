import TinyFlux.Generated.Footprint
import TinyFlux.Model.Footprint

theorem TinyFlux.Footprint.queries :
    Model.Footprint.pick Generated.classState (Model.Footprint.queries.map (·.1)) = Model.Footprint.queries := by
  -- kernel only: the elaborator compares string keys slowly
  decide +kernel
