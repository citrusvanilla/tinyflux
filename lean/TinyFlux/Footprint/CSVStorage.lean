import TinyFlux.Generated.Footprint
import TinyFlux.Model.Footprint

theorem TinyFlux.Footprint.csvStorage :
    Generated.classState.lookup "storages.CSVStorage" = some Model.Footprint.csvStorage := by rfl
