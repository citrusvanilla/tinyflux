import TinyFlux.Generated.Footprint
import TinyFlux.Model.Footprint

theorem TinyFlux.Footprint.measurement :
    Generated.classState.lookup "measurement.Measurement" = some Model.Footprint.measurement := by
  -- kernel only: the elaborator compares string keys slowly
  decide +kernel
