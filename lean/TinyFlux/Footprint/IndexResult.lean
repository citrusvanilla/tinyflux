import TinyFlux.Generated.Footprint
import TinyFlux.Model.Footprint

theorem TinyFlux.Footprint.indexResult :
    Generated.classState.lookup "index.IndexResult" = some Model.Footprint.indexResult := by
  -- kernel only: the elaborator compares string keys slowly
  decide +kernel
