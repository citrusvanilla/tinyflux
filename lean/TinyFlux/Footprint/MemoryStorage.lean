import TinyFlux.Generated.Footprint
import TinyFlux.Model.Footprint

theorem TinyFlux.Footprint.memoryStorage :
    Generated.classState.lookup "storages.MemoryStorage" = some Model.Footprint.memoryStorage := by
  -- kernel only: the elaborator compares string keys slowly
  decide +kernel
