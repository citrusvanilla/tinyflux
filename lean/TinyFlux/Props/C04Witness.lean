import TinyFlux.Props.C04
import TinyFlux.Props.C04EndToEnd
import TinyFlux.Props.Witness.File
/-!
# C04 — non-vacuity witness

The hypotheses of the end-to-end theorems of C04 (`Inv s`, `OpOK`, `MeasOK`, `OpsOK`, `FileOf s fs`) are jointly
satisfied by a concrete, non-trivial instance: a CSV database with auto-indexing holding three points, the file state that
goes with it, and four concrete operations (a remove, an update, an insert of two points, a count). The definitions below
are the instance of `Props/Witness/File.lean` under this property's names; that the hypotheses hold of it is proved there.
The instantiated conclusions are then evaluated: the step lists are long (22 and 29 calls for the two rewrites) and the
file afterwards holds exactly the expected rows.
-/
namespace TinyFlux.Props.C04
open TinyFlux.Model TinyFlux.Model.IO TinyFlux.Spec

/-! ## the concrete instance -/

/-- file-backed storage with `norm := id` (why: `Witness.File.cfg`), auto-indexing on -/
def witness_cfg : Cfg := { autoIndex := true, norm := id }

def witness_p1 : Point :=
  { time := 1000000, meas := "cpu", tags := [("host", some "a")], fields := [("load", some (.fin 1))] }
def witness_p2 : Point :=
  { time := 2000000, meas := "cpu", tags := [("host", some "b")], fields := [("load", some (.fin (5/2)))] }
def witness_p3 : Point :=
  { time := 3000000, meas := "mem", tags := [("host", some "a"), ("dc", none)], fields := [("free", none)] }
def witness_p4 : Point :=
  { time := 4000000, meas := "cpu", tags := [("host", some "c")], fields := [("load", some (.fin 3))] }
def witness_p5 : Point :=
  { time := 1500000, meas := "disk", tags := [], fields := [("used", some (.fin (-7)))] }
/-- `witness_p2` after the update below -/
def witness_p2' : Point :=
  { time := 2000000, meas := "cpu", tags := [("host", some "b")], fields := [("load", some (.fin 7))] }

def witness_history : List Op := [.insert [some witness_p1, some witness_p2] none, .insert [some witness_p3] none]

def witness_s : State := (runM (init witness_cfg) witness_history).1

/-- the file that goes with it: the three rows, nothing buffered, no temp file, handle open at the end -/
def witness_fs : FS Point := { primary := [witness_p1, witness_p2, witness_p3] }

/-- `db.remove(TagQuery().host == "b")`: removes the second of the three points -/
def witness_remove : Op := .remove (.tag "host" (.cmp .eq (.str "b"))) none
/-- the updater `fields={"load": v}` -/
def witness_setLoad (v : Option Num) : Upd :=
  { time := none, meas := none, tags := none, fields := some (fun _ => .ok [("load", v)]),
    unsetTags := [], unsetFields := [] }
/-- `db.update(TagQuery().host == "b", fields={"load": 7})`: changes the second point -/
def witness_update : Op := .update false (.tag "host" (.cmp .eq (.str "b"))) (witness_setLoad (some (.fin 7))) none
/-- `db.insert_multiple([p4, p5])` (the second one out of time order) -/
def witness_insert : Op := .insert [some witness_p4, some witness_p5] none
/-- `db.count(MeasurementQuery() == "cpu")` -/
def witness_count : Op := .count (.meas (.cmp .eq (.str "cpu"))) none
/-- a remove that matches nothing -/
def witness_remove0 : Op := .remove (.tag "host" (.cmp .eq (.str "zzz"))) none

/-! ## the hypotheses hold: taken over from `Witness.File` -/

theorem witness_s_eq : witness_s = Witness.File.s := rfl

theorem witness_inv : Inv witness_s := Witness.File.inv
theorem witness_fileOf : FileOf witness_s witness_fs := Witness.File.fileOf

theorem witness_storage : witness_s.storage = [witness_p1, witness_p2, witness_p3] := witness_s_eq ▸ Witness.File.storage
theorem witness_index_valid : witness_s.index.valid = true := witness_s_eq ▸ Witness.File.index_valid
theorem witness_index_nontrivial : witness_s.index.numItems = 3 ∧ witness_s.index.ts = [1000000, 2000000, 3000000] :=
  witness_s_eq ▸ Witness.File.index_nontrivial

theorem witness_remove_ok : OpOK witness_s.cfg witness_remove ∧ MeasOK witness_remove :=
  witness_s_eq ▸ Witness.File.remove_ok
theorem witness_update_ok : OpOK witness_s.cfg witness_update ∧ MeasOK witness_update :=
  witness_s_eq ▸ Witness.File.update_ok
theorem witness_insert_ok : OpOK witness_s.cfg witness_insert ∧ MeasOK witness_insert :=
  witness_s_eq ▸ Witness.File.insert_ok
theorem witness_count_ok : OpOK witness_s.cfg witness_count ∧ MeasOK witness_count :=
  witness_s_eq ▸ Witness.File.count_ok

/-! ## the theorems, instantiated -/

/-- `every_operation_leaves_the_file_holding_the_contents` at the remove … -/
theorem witness_remove_file :
    FileOf (witness_s.step witness_remove).1 (IO.run witness_fs (opSteps witness_s true witness_remove)) :=
  every_operation_leaves_the_file_holding_the_contents witness_s witness_inv witness_remove
    witness_remove_ok.1 witness_remove_ok.2 witness_fs witness_fileOf

/-- … which is a real rewrite through a temp file (22 I/O calls), reports 1, and leaves exactly the two other rows -/
theorem witness_remove_concrete :
    (opSteps witness_s true witness_remove).length = 22 ∧
    (witness_s.step witness_remove).2 = .nat 1 ∧
    (witness_s.step witness_remove).1.storage = [witness_p1, witness_p3] ∧
    (IO.run witness_fs (opSteps witness_s true witness_remove)).primary = [witness_p1, witness_p3] ∧
    (IO.run witness_fs (opSteps witness_s true witness_remove)).temp = none := by decide +kernel

example : 5 < (opSteps witness_s true witness_remove).length := by
  rw [witness_remove_concrete.1]
  decide

/-- at the update (a rewrite followed by the re-read that rebuilds the index: 29 calls) -/
theorem witness_update_file :
    FileOf (witness_s.step witness_update).1 (IO.run witness_fs (opSteps witness_s true witness_update)) :=
  every_operation_leaves_the_file_holding_the_contents witness_s witness_inv witness_update
    witness_update_ok.1 witness_update_ok.2 witness_fs witness_fileOf

theorem witness_update_concrete :
    (opSteps witness_s true witness_update).length = 29 ∧
    (witness_s.step witness_update).2 = .nat 1 ∧
    (IO.run witness_fs (opSteps witness_s true witness_update)).primary = [witness_p1, witness_p2', witness_p3] := by
  decide +kernel

/-- at the insert of two points -/
theorem witness_insert_file :
    FileOf (witness_s.step witness_insert).1 (IO.run witness_fs (opSteps witness_s true witness_insert)) :=
  every_operation_leaves_the_file_holding_the_contents witness_s witness_inv witness_insert
    witness_insert_ok.1 witness_insert_ok.2 witness_fs witness_fileOf

theorem witness_insert_concrete :
    (opSteps witness_s true witness_insert).length = 10 ∧
    (witness_s.step witness_insert).2 = .nat 2 ∧
    (IO.run witness_fs (opSteps witness_s true witness_insert)).primary =
      [witness_p1, witness_p2, witness_p3, witness_p4, witness_p5] := by decide +kernel

/-- at the count (answered from the index: no I/O at all, the file is as before) -/
theorem witness_count_file :
    FileOf (witness_s.step witness_count).1 (IO.run witness_fs (opSteps witness_s true witness_count)) :=
  every_operation_leaves_the_file_holding_the_contents witness_s witness_inv witness_count
    witness_count_ok.1 witness_count_ok.2 witness_fs witness_fileOf

theorem witness_count_concrete :
    (witness_s.step witness_count).2 = .nat 2 ∧
    (IO.run witness_fs (opSteps witness_s true witness_count)).primary = [witness_p1, witness_p2, witness_p3] := by
  decide +kernel

/-! ### a whole history -/

def witness_more : List Op := [witness_insert, witness_update, witness_remove, witness_count, witness_remove0]

theorem witness_more_ok : OpsOK witness_s.cfg witness_more := by
  simp only [witness_more, opsOK_cons, opsOK_nil, and_true]
  exact ⟨witness_insert_ok, witness_update_ok, witness_remove_ok, witness_count_ok,
    witness_s_eq ▸ Witness.File.remove0_ok⟩

/-- `every_history_leaves_the_file_holding_the_contents` at a five-operation history … -/
theorem witness_history_file :
    FileOf (runM witness_s witness_more).1 (IO.run witness_fs (historySteps witness_s witness_more)) :=
  every_history_leaves_the_file_holding_the_contents witness_s witness_inv witness_more witness_more_ok
    witness_fs witness_fileOf

/-- … of 90 I/O calls in all (the out-of-order insert invalidates the index, so the update re-reads the file first),
    after which the file holds four rows -/
theorem witness_history_concrete :
    (historySteps witness_s witness_more).length = 90 ∧
    (runM witness_s witness_more).2 = [.nat 2, .nat 1, .nat 1, .nat 2, .nat 0] ∧
    (IO.run witness_fs (historySteps witness_s witness_more)).primary =
      [witness_p1, witness_p3, witness_p4, witness_p5] := by decide +kernel

end TinyFlux.Props.C04
