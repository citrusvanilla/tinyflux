import TinyFlux.Lemmas.IOOps
/-! # C12, end to end (database model ⋈ I/O model; `opSteps`, `FileOf` and the flush argument: see `C04EndToEnd.lean`) -/
namespace TinyFlux.Props.C12
open TinyFlux.Model TinyFlux.Model.IO TinyFlux.Spec

/-- for every reachable state and every operation, if the process dies between any two of the operation's
    I/O calls, the file holds the contents before the operation or the contents after it; for an insert, the
    old contents plus a prefix of the new rows -/
theorem every_operation_is_crash_atomic (s : State) (hs : Inv s) (op : Op)
    (hok : OpOK s.cfg op) (hm : MeasOK op) (fs : FS Point) (hfs : FileOf s fs) (k : Nat) :
    afterCrash (run fs ((opSteps s true op).take k)) = s.storage ∨
    afterCrash (run fs ((opSteps s true op).take k)) = (s.step op).1.storage ∨
    ∃ pts m j, op = .insert pts m ∧
      afterCrash (run fs ((opSteps s true op).take k)) = s.storage ++ (insertedRows s.cfg m pts).take j :=
  have _ := hok  -- not needed, as in `C04.every_operation_leaves_the_file_holding_the_contents`
  ((op_io s hs op hm fs hfs).2 k).1

end TinyFlux.Props.C12
