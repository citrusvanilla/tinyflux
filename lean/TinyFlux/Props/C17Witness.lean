import TinyFlux.Props.C17
/-!
# C17 — non-vacuity witness

Two concrete leaf queries that differ only in the right-hand side (`TagQuery().host == "x"` / `== "y"`), their hash
tuples computed from the generated table, and the instantiated theorems: `leaf_hash_inj` (both directions of use),
`heq_sound` / `eq_sound` at two syntactically different compound queries that compare equal (hypotheses `hashOf … = some …`,
`heq … = true`, `qeq … = true` all hold) under a concrete environment for regexes / user functions and at a concrete
point where the common truth value is computed, `and_comm_eq` / `or_comm_eq` with their hashability side conditions,
and the side conditions shown to matter (a `map` query is not hashable and `a & m == m & a` is then false).
-/
namespace TinyFlux.Props.C17
open TinyFlux.Spec TinyFlux.Model.QHash TinyFlux.Generated

/-! ## two leaves with different right-hand sides -/

def witness_l1 : SLeaf := .cmp .eq (.str "x")
def witness_l2 : SLeaf := .cmp .eq (.str "y")

/-- `TagQuery().host == "x"`, `TagQuery().host == "y"` -/
def witness_q1 : SQ := .simple .tags [.key "host"] witness_l1
def witness_q2 : SQ := .simple .tags [.key "host"] witness_l2
/-- `FieldQuery().load >= 2.5`, `MeasurementQuery().matches("cp", flags=2)`, `TimeQuery().test(f₇, 1)` -/
def witness_q3 : SQ := .simple .fields [.key "load"] (.cmp .ge (.num (.fin (5/2))))
def witness_q4 : SQ := .simple .meas [] (.matches "cp" 2)
def witness_q5 : SQ := .simple .time [] (.test 7 [.num (.fin 1)])
/-- `TagQuery().host.map(f₃) == "x"`: not hashable -/
def witness_qm : SQ := .simple .tags [.key "host", .map 3] witness_l1

/-- the hash tuples, computed from the generated table: the right-hand side is a component -/
theorem witness_tuples :
    leafTuple .tags ["host"] witness_l1 = [.attr .tags, .op "==", .path ["host"], .val (.str "x")] ∧
    leafTuple .tags ["host"] witness_l2 = [.attr .tags, .op "==", .path ["host"], .val (.str "y")] :=
  ⟨tup_cmp _ _ _ _, tup_cmp _ _ _ _⟩

theorem witness_tuples_computed :
    leafTuple .tags ["host"] witness_l1 = [.attr .tags, .op "==", .path ["host"], .val (.str "x")] ∧
    leafTuple .fields ["load"] (.cmp .ge (.num (.fin (5/2)))) =
      [.attr .fields, .op ">=", .path ["load"], .val (.num (.fin (5/2)))] ∧
    leafTuple .meas [] (.matches "cp" 2) = [.attr .meas, .op "matches", .path [], .str "cp", .nat 2] ∧
    leafTuple .time [] (.test 7 [.num (.fin 1)]) = [.attr .time, .op "test", .path [], .fn 7, .vals [.num (.fin 1)]] := by
  decide +kernel

/-- `leaf_hash_inj`, contrapositive: leaves with different right-hand sides have different hashes -/
theorem witness_hashes_differ : leafTuple .tags ["host"] witness_l1 ≠ leafTuple .tags ["host"] witness_l2 :=
  fun h => absurd (leaf_hash_inj _ _ _ _ _ _ h).2.2 (by decide)

/-- … also when only the flags, only the key or only the attribute differ -/
theorem witness_hashes_differ' :
    leafTuple .meas [] (.matches "cp" 2) ≠ leafTuple .meas [] (.matches "cp" 0) ∧
    leafTuple .tags ["host"] witness_l1 ≠ leafTuple .tags ["dc"] witness_l1 ∧
    leafTuple .tags ["host"] .exists ≠ leafTuple .fields ["host"] .exists :=
  ⟨fun h => absurd (leaf_hash_inj _ _ _ _ _ _ h).2.2 (by decide),
   fun h => absurd (leaf_hash_inj _ _ _ _ _ _ h).2.1 (by decide),
   fun h => absurd (leaf_hash_inj _ _ _ _ _ _ h).1 (by decide)⟩

/-- `leaf_hash_inj`, direct: its hypothesis is satisfiable (by equal leaves only) -/
example := leaf_hash_inj .tags .tags ["host"] ["host"] witness_l1 (.cmp .eq (.str "x")) rfl

/-! ## a concrete environment and point -/

/-- regexes are prefix / substring tests, user predicate 7 tests for an even microsecond, map function 3 is the identity -/
def witness_env : Env :=
  { testFn := fun fn _ v => match fn, v with | 7, .time t => t % 2 == 0 | _, _ => false,
    mapFn := fun fn v => if fn = 3 then some v else none,
    reMatch := fun r _ s => r.toList.isPrefixOf s.toList,
    reSearch := fun r _ s => r.toList.isPrefixOf s.toList }

def witness_p : Point :=
  { time := 1700000000123456, meas := "cpu", tags := [("host", some "x")], fields := [("load", some (.fin 3))] }

/-- the leaves really are different queries: they disagree on this point -/
theorem witness_leaves_disagree :
    evalS witness_env witness_q1 witness_p = true ∧ evalS witness_env witness_q2 witness_p = false ∧
    qeq witness_q1 witness_q2 = false ∧ qeq witness_q1 witness_q1 = true := by decide +kernel

/-! ## `heq_sound`, `eq_sound` -/

/-- `(q1 & q3) | ~q4` and `~q4 | (q3 & q1)`: different syntax, equal as queries -/
def witness_a : SQ := .or (.and witness_q1 witness_q3) (.not witness_q4)
def witness_b : SQ := .or (.not witness_q4) (.and witness_q3 witness_q1)

def witness_h1 : HV := .tuple [.attr .tags, .op "==", .path ["host"], .val (.str "x")]
def witness_h3 : HV := .tuple [.attr .fields, .op ">=", .path ["load"], .val (.num (.fin (5/2)))]
def witness_h4 : HV := .tuple [.attr .meas, .op "matches", .path [], .str "cp", .nat 2]
def witness_ha : HV := .pair "or" (.pair "and" witness_h1 witness_h3) (.un "not" witness_h4)
def witness_hb : HV := .pair "or" (.un "not" witness_h4) (.pair "and" witness_h3 witness_h1)

-- so that a computed hash can be compared with the one written out above
deriving instance DecidableEq for HV

/-- the hypotheses of `heq_sound` and of `eq_sound` at these two queries, in one evaluation (they have the same
    leaves, whose tuples are looked up in the generated table once) -/
theorem witness_hashes :
    hashOf witness_a = some witness_ha ∧ hashOf witness_b = some witness_hb ∧ heq witness_ha witness_hb = true ∧
    witness_a ≠ witness_b ∧ qeq witness_a witness_b = true := by decide +kernel

theorem witness_heq_sound (p : Point) : evalS witness_env witness_a p = evalS witness_env witness_b p :=
  heq_sound witness_env witness_a witness_b witness_ha witness_hb witness_hashes.1 witness_hashes.2.1
    witness_hashes.2.2.1 p

theorem witness_eq_sound (p : Point) : evalS witness_env witness_a p = evalS witness_env witness_b p :=
  eq_sound witness_env witness_a witness_b witness_hashes.2.2.2.2 p

/-- the common value at the concrete point (`host == "x"` and `load >= 2.5` hold), and at a point where the first
    disjunct fails and the measurement matches: `true` and `false` both occur -/
theorem witness_values :
    evalS witness_env witness_a witness_p = true ∧ evalS witness_env witness_b witness_p = true ∧
    evalS witness_env witness_a { witness_p with tags := [] } = false ∧
    evalS witness_env witness_b { witness_p with tags := [] } = false ∧
    evalS witness_env witness_q5 witness_p = true := by decide +kernel

/-- the hypothesis of `eq_sound` discriminates: swapping `x` for `y` gives an unequal query with a different value -/
theorem witness_not_equal :
    qeq witness_a (.or (.not witness_q4) (.and witness_q3 witness_q2)) = false ∧
    evalS witness_env (.or (.not witness_q4) (.and witness_q3 witness_q2)) witness_p = false := by decide +kernel

/-! ## commutativity, and its side conditions -/

theorem witness_hashable :
    (hashOf witness_q1).isSome = true ∧ (hashOf witness_q5).isSome = true ∧ (hashOf witness_a).isSome = true ∧
    hasMap witness_q1 = false ∧ hasMap witness_a = false := by decide +kernel

/-- `and_comm_eq` / `or_comm_eq` at a leaf and a user-predicate leaf, and at a leaf and a compound query -/
theorem witness_and_comm : qeq (.and witness_q1 witness_q5) (.and witness_q5 witness_q1) = true :=
  and_comm_eq witness_q1 witness_q5 rfl rfl
theorem witness_and_comm' : qeq (.and witness_q2 witness_a) (.and witness_a witness_q2) = true :=
  and_comm_eq witness_q2 witness_a rfl rfl
theorem witness_or_comm : qeq (.or witness_q1 witness_q5) (.or witness_q5 witness_q1) = true :=
  or_comm_eq witness_q1 witness_q5 rfl rfl

/-- the side condition matters: with a `map` in the path the query is not hashable, and commuted conjunctions are
    not equal (`map_never_equal`), not even the query to itself -/
theorem witness_map_not_hashable :
    hasMap witness_qm = true ∧ (hashOf witness_qm).isSome = false ∧
    qeq (.and witness_q1 witness_qm) (.and witness_qm witness_q1) = false ∧ qeq witness_qm witness_qm = false := by
  decide +kernel

theorem witness_map_never_equal :
    qeq (.and witness_q1 witness_qm) witness_a = false ∧ qeq witness_a (.and witness_q1 witness_qm) = false :=
  map_never_equal (.and witness_q1 witness_qm) witness_a rfl

/-- … although it has a perfectly good meaning (map function 3 is the identity here) -/
theorem witness_map_evaluates : evalS witness_env witness_qm witness_p = true := by decide +kernel

example := noop_never_equal .tags witness_q1
example := hashOf_none_of_hasMap witness_qm rfl
example := opTags_distinct .simple .compound

end TinyFlux.Props.C17
