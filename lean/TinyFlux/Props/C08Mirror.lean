import TinyFlux.Mirror.SearchTime
import TinyFlux.Mirror.Ops
/-!
# C08 over the translated source: the time search of `tinyflux/index.py`

`Index._search_timestamps` translated statement by statement from the working tree (see `C01Mirror.lean`): for an aware
comparison value the bisection runs on the instant (`rhs.timestamp()`), the operator is used only when the query is hashable (no
transform in the path) and the value is an aware `datetime`, and every other time query is answered by testing each timestamp
converted back with an explicit UTC zone. As a set of positions it is the Model's `searchTs`; `Props/C08.lean` proves that the
Model answers a time query alike on the index path and on the scan path (`time_query_same_on_both_paths`) and that the
Spec's time comparison compares instants (`time_query_compares_instants`).
-/
namespace TinyFlux.Props.C08
open TinyFlux.Spec TinyFlux.Model TinyFlux.Mirror TinyFlux.Generated

theorem translated_time_search (g : GSelf) (hlen : g._timestamps.length = g._storage_pos_sorted_by_ts.length) (l : Leaf) :
    match (Mirror.abs g).searchTs l with
    | .ok r' => ∃ r, IndexImpl._search_timestamps g (timeQuery l) = .ok r ∧ SameSet r r'
    | .error _ => ∃ e, IndexImpl._search_timestamps g (timeQuery l) = .error e :=
  search_timestamps_ok g hlen l

/-- non-vacuity: the index the translated `build` produces for two points with the same instant and one earlier meets
    the hypothesis (parallel time arrays), so the theorem applies to it -/
example : ∃ g', IndexImpl.build (IndexImpl.__init__ true)
      [{ time := 5, meas := "a", tags := [], fields := [] }, { time := 3, meas := "b", tags := [], fields := [] },
       { time := 5, meas := "a", tags := [], fields := [] }] = .ok g'
    ∧ g'._timestamps.length = g'._storage_pos_sorted_by_ts.length
    ∧ (match (Mirror.abs g').searchTs (.cmp .eq (.time 5)) with
       | .ok r' => ∃ r, IndexImpl._search_timestamps g' (timeQuery (.cmp .eq (.time 5))) = .ok r ∧ SameSet r r'
       | .error _ => ∃ e, IndexImpl._search_timestamps g' (timeQuery (.cmp .eq (.time 5))) = .error e) := by
  obtain ⟨g', h1, _, h3⟩ := build_ok (IndexImpl.__init__ true)
      [{ time := 5, meas := "a", tags := [], fields := [] }, { time := 3, meas := "b", tags := [], fields := [] },
       { time := 5, meas := "a", tags := [], fields := [] }]
  have hl : g'._timestamps.length = g'._storage_pos_sorted_by_ts.length := by
    have a := h3.ts; have b := h3.pos
    simp only [Mirror.abs] at a b
    rw [a, b]; simp [Index.build]
  exact ⟨g', h1, hl, translated_time_search g' hl _⟩

end TinyFlux.Props.C08
