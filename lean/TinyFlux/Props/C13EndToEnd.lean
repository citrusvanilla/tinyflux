import TinyFlux.Lemmas.IOOps
/-! # C13, end to end (database model ⋈ I/O model; `opSteps`, `FileOf` and the flush argument: see `C04EndToEnd.lean`) -/
namespace TinyFlux.Props.C13
open TinyFlux.Model TinyFlux.Model.IO TinyFlux.Spec

/-- for every reachable state and every operation, an I/O error after any prefix of the operation's calls,
    followed by the `finally` cleanup, leaves the old or the new contents (insert: plus a prefix, counting rows
    still buffered in the live handle) and no temp file -/
theorem every_operation_is_fault_atomic (s : State) (hs : Inv s) (op : Op)
    (hok : OpOK s.cfg op) (hm : MeasOK op) (fs : FS Point) (hfs : FileOf s fs) (k : Nat) :
    let fs' := run fs ((opSteps s true op).take k ++ [.tClose, .tUnlink])
    fs'.temp = none ∧
    (afterClose fs' = s.storage ∨ afterClose fs' = (s.step op).1.storage ∨
     ∃ pts m j, op = .insert pts m ∧ afterClose fs' = s.storage ++ (insertedRows s.cfg m pts).take j) := by
  have _ := hok  -- not needed, as in `C04.every_operation_leaves_the_file_holding_the_contents`
  intro fs'
  obtain ⟨c1, c2, c3, _⟩ := run_cleanup fs ((opSteps s true op).take k)
  -- the cleanup touches neither the file nor the primary handle's buffer
  have hac : afterClose fs' = afterClose (run fs ((opSteps s true op).take k)) := by
    simp only [afterClose, fs', c1, c2]
  rw [hac]
  exact ⟨c3, ((op_io s hs op hm fs hfs).2 k).2⟩

end TinyFlux.Props.C13
