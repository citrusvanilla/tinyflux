import TinyFlux.Footprint.CSVStorage
import TinyFlux.Footprint.TinyFlux
import TinyFlux.Generated.CallGraph
import TinyFlux.Model.CallGraph

/-! # C12: the state the code keeps is the state the Model has (CSV storage, database)

Over `Generated/Footprint.lean` (regenerated from the source on every run). A cache, a memo table or a flag added
to one of these classes or modules is state no theorem of this property covers: these stop checking. -/
namespace TinyFlux.Props.C12
open TinyFlux

/-- every attribute these classes assign is a component of the Model's state (`Model/Footprint.lean` says which) -/
theorem state_is_the_models_state :
    Generated.classState.lookup "storages.CSVStorage" = some Model.Footprint.csvStorage ∧
    Generated.classState.lookup "database.TinyFlux" = some Model.Footprint.tinyFlux :=
  ⟨Footprint.csvStorage, Footprint.tinyFlux⟩

/-- no module-level variable, caching decorator, `global`/`nonlocal` or mutable default argument beyond the
    modelled ones; no class the Model does not know -/
theorem no_hidden_state :
    Generated.moduleState.lookup "storages" = Model.Footprint.modules.lookup "storages" ∧
    Generated.moduleState.lookup "database" = Model.Footprint.modules.lookup "database" ∧
    Generated.classState.map (·.1) = Model.Footprint.classNames := ⟨rfl, rfl, rfl⟩

/-- every function of these classes / modules calls, catches and raises exactly what it did when the Model was
    written against it and validated (`Model/CallGraph.lean`); and there is no table the Model does not know -/
theorem code_uses_the_modelled_primitives :
    Generated.calls_storages_Storage = Model.CallGraph.calls_storages_Storage ∧
    Generated.calls_storages_CSVStorage = Model.CallGraph.calls_storages_CSVStorage ∧
    Generated.calls_storages_MemoryStorage = Model.CallGraph.calls_storages_MemoryStorage ∧
    Generated.calls_storages_toplevel = Model.CallGraph.calls_storages_toplevel ∧
    Generated.calls_database_TinyFlux = Model.CallGraph.calls_database_TinyFlux ∧
    Generated.calls_database_toplevel = Model.CallGraph.calls_database_toplevel ∧
    Generated.callGraphTables = Model.CallGraph.callGraphTables := ⟨rfl, rfl, rfl, rfl, rfl, rfl, rfl⟩

/-- the calls of every storage method are written in the order — and inside the branches, loops and handlers — in which the
    I/O model (`Model/IO.lean`, `Model/IOSteps.lean`) has them: `Generated.order_storages_*` lists, per method, the calls in
    source order with control-structure markers; two I/O calls swapped, or a call moved into or out of a branch or a
    `finally`, changes the listing (the unordered call graph above does not see that) -/
theorem storage_calls_in_the_modelled_order :
    Generated.order_storages_Storage = Model.CallGraph.order_storages_Storage ∧
    Generated.order_storages_CSVStorage = Model.CallGraph.order_storages_CSVStorage ∧
    Generated.order_storages_MemoryStorage = Model.CallGraph.order_storages_MemoryStorage := ⟨rfl, rfl, rfl⟩

end TinyFlux.Props.C12
