import TinyFlux.Props.C07
import TinyFlux.Props.Witness.Database
/-!
# C07 — non-vacuity witnesses

The hypotheses of the theorems of `Props/C07.lean` (`Inv s`, `m ≠ some ""`, `name ≠ ""`, `isRead op`, `MeasOK op`) are
jointly satisfiable by concrete, non-trivial states, and the conclusions then say something concrete: every getter theorem
is instantiated at a three-point database under a CSV configuration (automatic index, the real row round trip as `norm`:
answers come from the index) and a memory configuration (no automatic index: answers come from scanning), with all
hypotheses discharged, and the returned values are computed — by `decide +kernel` where the answer involves no sorting;
where it does, through the theorem: the specification's answer is evaluated up to the sort, and the list to be sorted is
in order already (`List.mergeSort` is defined by well-founded recursion, which the kernel does not unfold).
-/
namespace TinyFlux.Props.C07
open TinyFlux.Spec TinyFlux.Model

/-! ## the witness database of `Props/Witness/Database.lean` (the two configurations and the codec pair are
explained in `Props/Witness/Storable.lean`), under this property's names -/

def encQ (q : Rat) : Codec.Str :=
  (if q.num < 0 then 'm' else 'q') :: (List.replicate q.num.natAbs 'i' ++ '/' :: List.replicate q.den 'i')

def wfc : Codec.FieldCodec where
  repr
    | .ninf => ['n'] | .pinf => ['p'] | .fin q => encQ q
  parse
    | ['n'] => some .ninf
    | ['p'] => some .pinf
    | 'q' :: r => some (.fin (mkRat (r.takeWhile (· == 'i')).length ((r.dropWhile (· == 'i')).drop 1).length))
    | 'm' :: r => some (.fin (mkRat (-((r.takeWhile (· == 'i')).length : Int)) ((r.dropWhile (· == 'i')).drop 1).length))
    | _ => none

def wtc : Codec.TimeCodec where
  iso | .ofNat n => 'T' :: List.replicate n 'i' | .negSucc n => 'U' :: List.replicate n 'i'
  fromIso | 'T' :: r => some (Int.ofNat r.length) | 'U' :: r => some (Int.negSucc r.length) | _ => none

def csvNorm (p : Point) : Point :=
  match Codec.deserialize wfc wtc (Codec.serialize wfc wtc false p) with
  | some q => q
  | none => ⟨0, "", [], []⟩

def csvCfg : Cfg := { autoIndex := true, norm := csvNorm }
def memCfg : Cfg := { autoIndex := false, norm := id }

def p1 : Point := ⟨10, "m1", [("a", some "x"), ("b", none)], [("f", some (.fin 2))]⟩
def p2 : Point := ⟨20, "m1", [("a", some "y")], [("f", some (.fin 7)), ("g", none)]⟩
def p3 : Point := ⟨20, "m2", [("a", some "x")], [("f", some (.fin (5 / 2)))]⟩

def ops0 : List Op := [.insert [some p1, some p2] none, .insert [some p3] none]

def sCsv : State := (runM (init csvCfg) ops0).1
def sMem : State := (runM (init memCfg) ops0).1

/-! ## the hypotheses hold -/

/-- the copies above are the witness database; the evaluations below start from its CSV state in closed form
    (`rw [sCsv_eq, Witness.sCsv_val]`) -/
theorem csvCfg_eq : csvCfg = Witness.csvCfg := rfl
theorem sCsv_eq : sCsv = Witness.sCsv := congrArg (fun cfg => (runM (init cfg) ops0).1) csvCfg_eq
theorem sMem_eq : sMem = Witness.sMem := rfl

theorem witness_csv_norm_not_id : ¬ Good csvCfg ⟨10, "m1", [("a", some "_none")], []⟩ :=
  csvCfg_eq ▸ Witness.csv_norm_not_id

theorem witness_inv_csv : Inv sCsv := sCsv_eq ▸ Witness.inv_csv
theorem witness_inv_mem : Inv sMem := sMem_eq ▸ Witness.inv_mem

theorem witness_state_csv :
    sCsv.storage = [p1, p2, p3] ∧ sCsv.storage.length = 3 ∧ sCsv.index.valid = true ∧
    sCsv.index.numItems = 3 ∧ sCsv.index.ts = [10, 20, 20] ∧ sCsv.index.pos = [0, 1, 2] ∧
    sCsv.cfg.autoIndex = true := sCsv_eq ▸ Witness.state_csv
theorem witness_state_mem :
    sMem.storage = [p1, p2, p3] ∧ sMem.storage.length = 3 ∧ sMem.index.valid = false ∧
    sMem.cfg.autoIndex = false := sMem_eq ▸ Witness.state_mem
theorem witness_rep_csv : Represents sCsv.index sCsv.storage := sCsv_eq ▸ Witness.rep_csv

theorem mOK (s : String) (h : s ≠ "" := by decide) : (some s : Option String) ≠ some "" := Witness.mOK s h
theorem noneOK : (none : Option String) ≠ some "" := Witness.noneOK

/-! ## C07: the main theorems at these states -/

/-! ### getters whose answer is not sorted: instantiated, and evaluated on the model directly -/
example : (sCsv.step (.getFieldValues "f" (some "m1"))).2 = .nums (fieldValues sCsv.storage "f" (some "m1")) :=
  fieldValues_refines sCsv witness_inv_csv "f" (some "m1") (mOK "m1")
example : (sMem.step (.getFieldValues "g" none)).2 = .nums (fieldValues sMem.storage "g" none) :=
  fieldValues_refines sMem witness_inv_mem "g" none noneOK
example : (sCsv.step .len).2 = .nat sCsv.storage.length := len_refines sCsv witness_inv_csv
example : (sMem.step .len).2 = .nat sMem.storage.length := len_refines sMem witness_inv_mem
example : (sCsv.step .iter).2 = .points sCsv.storage := iter_refines sCsv witness_inv_csv
example : (sMem.step (.all false)).2 = .points (Spec.all sMem.storage false) := all_refines sMem witness_inv_mem false
example : (sCsv.step (.mlen "m1")).2 = .nat (sCsv.storage.filter (fun p => p.meas == "m1")).length :=
  measurement_len_refines sCsv witness_inv_csv "m1" (by decide)
example : (sMem.step (.mlen "m2")).2 = .nat (sMem.storage.filter (fun p => p.meas == "m2")).length :=
  measurement_len_refines sMem witness_inv_mem "m2" (by decide)
example :
    (sCsv.step (.miter "m1")).2 = .points (sCsv.storage.filter (fun p => p.meas == "m1")) ∧
    (sCsv.step (.mall "m1" true)).2 = .points (Spec.all (sCsv.storage.filter (fun p => p.meas == "m1")) true) :=
  measurement_iter_all_refines sCsv witness_inv_csv "m1" true (by decide)
example : (sMem.step (.getTimestamps (some "m1"))).2 = .times (timestamps sMem.storage (some "m1")) :=
  timestamps_refines sMem witness_inv_mem (some "m1") (mOK "m1")
theorem witness_unsorted_getters_value :
    (sCsv.step (.getFieldValues "f" (some "m1"))).2 = .nums [some (.fin 2), some (.fin 7)] ∧
    (sCsv.step (.getFieldValues "f" none)).2 = .nums [some (.fin 2), some (.fin 7), some (.fin (5 / 2))] ∧
    (sMem.step (.getFieldValues "g" none)).2 = .nums [none] ∧
    (sCsv.step (.getFieldValues "g" (some "m2"))).2 = .nums [] ∧
    (sCsv.step .len).2 = .nat 3 ∧ (sMem.step .len).2 = .nat 3 ∧
    (sCsv.step .iter).2 = .points [p1, p2, p3] ∧ (sMem.step (.all false)).2 = .points [p1, p2, p3] ∧
    (sCsv.step (.mlen "m1")).2 = .nat 2 ∧ (sMem.step (.mlen "m2")).2 = .nat 1 ∧ (sCsv.step (.mlen "zz")).2 = .nat 0 ∧
    (sCsv.step (.miter "m1")).2 = .points [p1, p2] ∧ (sMem.step (.mall "m2" false)).2 = .points [p3] ∧
    (sMem.step (.getTimestamps (some "m1"))).2 = .times [10, 20] ∧
    (sMem.step (.getTimestamps none)).2 = .times [10, 20, 20] := by
  rw [sCsv_eq, Witness.sCsv_val]
  decide +kernel

/-! ### getters whose answer is sorted: instantiated, and evaluated through the theorem
(`List.mergeSort_of_pairwise`, its hypothesis by evaluation) -/

example : (sCsv.step .getMeasurements).2 = .strs (measurements sCsv.storage) :=
  measurements_refines sCsv witness_inv_csv
example : (sMem.step .getMeasurements).2 = .strs (measurements sMem.storage) :=
  measurements_refines sMem witness_inv_mem
theorem witness_measurements_value :
    (sCsv.step .getMeasurements).2 = .strs ["m1", "m2"] ∧ (sMem.step .getMeasurements).2 = .strs ["m1", "m2"] := by
  rw [measurements_refines sCsv witness_inv_csv, measurements_refines sMem witness_inv_mem,
    witness_state_csv.1, witness_state_mem.1]
  have h : ([p1, p2, p3].map (·.meas)).eraseDups = ["m1", "m2"] := by decide +kernel
  simp (disch := decide +kernel) only [measurements, h, sortStr, List.mergeSort_of_pairwise, and_self]

example : (sCsv.step (.getTagKeys none)).2 = .strs (tagKeys sCsv.storage none) :=
  tagKeys_refines sCsv witness_inv_csv none noneOK
example : (sMem.step (.getTagKeys (some "m2"))).2 = .strs (tagKeys sMem.storage (some "m2")) :=
  tagKeys_refines sMem witness_inv_mem (some "m2") (mOK "m2")
example : (sCsv.step (.getFieldKeys (some "m1"))).2 = .strs (fieldKeys sCsv.storage (some "m1")) :=
  fieldKeys_refines sCsv witness_inv_csv (some "m1") (mOK "m1")
example : (sMem.step (.getFieldKeys none)).2 = .strs (fieldKeys sMem.storage none) :=
  fieldKeys_refines sMem witness_inv_mem none noneOK
theorem witness_keys_value :
    (sCsv.step (.getTagKeys none)).2 = .strs ["a", "b"] ∧
    (sCsv.step (.getFieldKeys (some "m1"))).2 = .strs ["f", "g"] ∧
    (sMem.step (.getFieldKeys none)).2 = .strs ["f", "g"] := by
  rw [tagKeys_refines sCsv witness_inv_csv none noneOK,
    fieldKeys_refines sCsv witness_inv_csv (some "m1") (mOK "m1"), fieldKeys_refines sMem witness_inv_mem none noneOK,
    witness_state_csv.1, witness_state_mem.1]
  have h1 : ((restrict [p1, p2, p3] none).flatMap (fun p => p.tags.map (·.1))).eraseDups = ["a", "b"] := by
    decide +kernel
  have h2 : ((restrict [p1, p2, p3] (some "m1")).flatMap (fun p => p.fields.map (·.1))).eraseDups = ["f", "g"] := by
    decide +kernel
  have h3 : ((restrict [p1, p2, p3] none).flatMap (fun p => p.fields.map (·.1))).eraseDups = ["f", "g"] := by
    decide +kernel
  simp (disch := decide +kernel) only [tagKeys, fieldKeys, h1, h2, h3, sortStr, List.mergeSort_of_pairwise, and_self]

example : (sCsv.step (.getTimestamps none)).2 = .times (timestamps sCsv.storage none) :=
  timestamps_refines sCsv witness_inv_csv none noneOK
/-- (model side: the index's time array sorted back into storage order) -/
theorem witness_timestamps_value :
    (sCsv.step (.getTimestamps none)).2 = .times [10, 20, 20] ∧
    (sCsv.step (.getTimestamps (some "m2"))).2 = .times [20] := by
  rw [timestamps_refines sCsv witness_inv_csv none noneOK, timestamps_refines sCsv witness_inv_csv (some "m2") (mOK "m2"),
    witness_state_csv.1]
  decide +kernel

example : (sCsv.step (.all true)).2 = .points (Spec.all sCsv.storage true) := all_refines sCsv witness_inv_csv true
/-- stable: the tie `p2`, `p3` stays in insertion order -/
theorem witness_all_sorted_value : (sCsv.step (.all true)).2 = .points [p1, p2, p3] := by
  rw [all_refines sCsv witness_inv_csv true, witness_state_csv.1, Spec.all, if_pos rfl, byTime,
    List.mergeSort_of_pairwise (by decide)]

example :
    canon (sCsv.step (.getTagValues ["a"] (some "m1"))).2 = canon (.tagVals (tagValues sCsv.storage ["a"] (some "m1"))) :=
  tagValues_refines sCsv witness_inv_csv ["a"] (some "m1") (mOK "m1")
example : canon (sMem.step (.getTagValues [] none)).2 = canon (.tagVals (tagValues sMem.storage [] none)) :=
  tagValues_refines sMem witness_inv_mem [] none noneOK
theorem witness_tagValues_value :
    canon (sCsv.step (.getTagValues ["a"] (some "m1"))).2 = .tagVals [("a", [some "x", some "y"])] := by
  rw [tagValues_refines sCsv witness_inv_csv ["a"] (some "m1") (mOK "m1"), witness_state_csv.1]
  have h : ((restrict [p1, p2, p3] (some "m1")).filterMap (fun p => p.tags.lookup "a")).eraseDups = [some "x", some "y"] := by
    decide +kernel
  have hk : (["a"] : List String).eraseDups = ["a"] := by decide +kernel
  simp (disch := decide +kernel) only [tagValues, tagValuesOf, h, hk, sortStr, canon, List.mergeSort_of_pairwise,
    List.isEmpty_cons, List.map, Bool.false_eq_true, if_false]

theorem witness_tagValues_all_value :
    canon (sMem.step (.getTagValues [] none)).2 = .tagVals [("a", [some "x", some "y"]), ("b", [none])] := by
  rw [tagValues_refines sMem witness_inv_mem [] none noneOK, witness_state_mem.1]
  have h1 : ((restrict [p1, p2, p3] none).flatMap (fun p => p.tags.map (·.1))).eraseDups = ["a", "b"] := by
    decide +kernel
  have ha : ((restrict [p1, p2, p3] none).filterMap (fun p => p.tags.lookup "a")).eraseDups = [some "x", some "y"] := by
    decide +kernel
  have hb : ((restrict [p1, p2, p3] none).filterMap (fun p => p.tags.lookup "b")).eraseDups = [none] := by
    decide +kernel
  simp (disch := decide +kernel) only [tagValues, tagValuesOf, tagKeys, h1, ha, hb, sortStr, canon, List.mergeSort_of_pairwise,
    List.isEmpty_nil, List.map, if_true]

/-! ### `getters_leave_storage` -/
example : (sCsv.step (.getTagValues ["a"] (some "m1"))).1.storage = sCsv.storage :=
  getters_leave_storage sCsv witness_inv_csv (.getTagValues ["a"] (some "m1")) rfl (mOK "m1")
example : (sMem.step (.getTimestamps none)).1.storage = sMem.storage :=
  getters_leave_storage sMem witness_inv_mem (.getTimestamps none) rfl noneOK

/-! ### the Spec-level theorems -/
example : (measurements sCsv.storage).Pairwise (fun a b => a < b) ∧
    ∀ s, s ∈ measurements sCsv.storage ↔ ∃ p ∈ sCsv.storage, p.meas = s :=
  measurements_sorted_unique sCsv.storage
example : fieldValues sCsv.storage "f" (some "m1") =
    (sCsv.storage.filter (fun p => (some "m1" : Option String).all (· == p.meas))).filterMap (fun p => p.fields.lookup "f") :=
  fieldValues_insertion_order sCsv.storage "f" (some "m1")

end TinyFlux.Props.C07
