import TinyFlux.Lemmas.Refinement
import TinyFlux.Lemmas.SpecOps
/-!
# C11 — an operation that raises leaves the database as it was, and still usable

Raising operations in the model: a non-Point element inside `insert_multiple` (`none` in the point
list), an update whose argument validation fails (nothing given), an update callable that raises or
returns an invalid value on some selected point (`upd u p = .error _`).
"Still usable": the state after the failed call satisfies the invariant, so every theorem of
C01–C07 applies to every history that continues from it.
-/
namespace TinyFlux.Props.C11
open TinyFlux.Spec TinyFlux.Model TinyFlux.Model.PropsAux2

/-- a failed `insert_multiple` has stored exactly the points before the offending element -/
theorem insert_error_preserves (s : State) (hs : Inv s) (pts : List (Option Point)) (m : Option String)
    (hok : OpOK s.cfg (.insert pts m)) (hm : m ≠ some "") (e : Err)
    (herr : (s.step (.insert pts m)).2 = .err e) :
    e = .type ∧
    (s.step (.insert pts m)).1.storage = s.storage ++ (insertPrefix m pts).1 ∧
    (insertPrefix m pts).2 = true ∧
    Inv (s.step (.insert pts m)).1 := by
  obtain ⟨h1, h2, _, h4⟩ := step_write_refines s hs (.insert pts m) rfl hok hm
  rw [h1] at herr
  rw [h2]
  have hstep : Spec.step s.storage (.insert pts m) =
      (s.storage ++ (insertPrefix m pts).1,
        if (insertPrefix m pts).2 then .err .type else .nat (insertPrefix m pts).1.length) := rfl
  rw [hstep] at herr ⊢
  cases hb : (insertPrefix m pts).2 with
  | false => simp [hb] at herr
  | true =>
    simp only [hb, if_true, Out.err.injEq] at herr
    exact ⟨herr.symm, rfl, rfl, h4⟩

/-- the Spec's update that reports an error has left the database alone -/
theorem spec_update_error (db : DB) (all : Bool) (q : Query) (u : Upd) (m : Option String) (e : Err)
    (h : (Spec.step db (.update all q u m)).2 = .err e) : (Spec.step db (.update all q u m)).1 = db := by
  rcases update_cases db all q u m with ⟨he, _⟩ | ⟨db', n, _, hst⟩
  · exact he
  · rw [hst] at h
    cases h

/-- a failed `update` / `update_all` leaves the stored contents exactly as they were -/
theorem update_error_preserves (s : State) (hs : Inv s) (all : Bool) (q : Query) (u : Upd) (m : Option String)
    (hok : OpOK s.cfg (.update all q u m)) (hm : m ≠ some "") (e : Err)
    (herr : (s.step (.update all q u m)).2 = .err e) :
    (s.step (.update all q u m)).1.storage = s.storage ∧ Inv (s.step (.update all q u m)).1 := by
  obtain ⟨h1, h2, _, h4⟩ := step_write_refines s hs (.update all q u m) rfl hok hm
  exact ⟨h2.trans (spec_update_error s.storage all q u m e (h1 ▸ herr)), h4⟩

/-- whatever an operation returns — a value or an error — the next state satisfies the invariant and
    holds the Spec's contents: subsequent operations behave normally -/
theorem usable_after_any_op (s : State) (hs : Inv s) (op : Op) (hok : OpOK s.cfg op) (hm : MeasOK op) :
    Inv (s.step op).1 ∧ (s.step op).1.storage = (Spec.step s.storage op).1 := by
  obtain ⟨_, h2, _, h1⟩ := step_refines s hs op hok hm
  exact ⟨h1, h2⟩

/-- the Spec itself: an error never changes the database, except for the inserted prefix -/
theorem spec_error_preserves (db : DB) (op : Op) (e : Err) (h : (Spec.step db op).2 = .err e) :
    (Spec.step db op).1 = db ∨ ∃ pts m, op = .insert pts m ∧ (Spec.step db op).1 = db ++ (insertPrefix m pts).1 := by
  cases op with
  | insert pts m =>
    right
    refine ⟨pts, m, rfl, ?_⟩
    simp only [Spec.step]
  | update all q u m => exact Or.inl (spec_update_error db all q u m e h)
  | remove q m => simp [Spec.step] at h
  | drop name => simp [Spec.step] at h
  | removeAll => simp [Spec.step] at h
  | _ => left; rfl

end TinyFlux.Props.C11
