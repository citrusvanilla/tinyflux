import TinyFlux.Props.C01
/-!
# C08 — timestamps are stored as exact UTC instants and ordered correctly

What is logic is proved here; what is the standard library (the tz database behind
`astimezone`, `datetime.timestamp()` / `fromtimestamp()`, ISO text) is a parameter with a stated law,
exercised by the correspondence runs in four process time zones.

* a datetime is a wall-clock reading plus an offset; normalising to UTC keeps the instant, so two
  presentations of one instant are stored identically;
* a time comparison in a query is a comparison of instants (integers), on the scan path by definition
  of `sem`, on the index path because the index's float keys are a strictly monotone, invertible image
  of microsecond instants: `grid_strictMono` / `grid_roundtrip` prove this for *any* rounding to a
  grid of more than 10⁶ ticks per second, both as instances of `lt_of_near_multiples` (that binary64 is
  a grid of ≥ 2²⁰ ticks per second for |t| < 2³³ s — years 1700–2240 — is the trusted IEEE fact);
* time-sorted results are a stable sort (C01); an updated time is the instant the update denotes;
  the CSV text of a time decodes to the same instant (C05).
-/
namespace TinyFlux.Props.C08
open TinyFlux.Spec TinyFlux.Model

/-- a datetime as supplied by a caller: wall-clock microseconds and the UTC offset they were read in
    (for a naive value the offset is what the tz database says for that wall time) -/
structure Stamp where
  wall : Int
  offset : Int
deriving DecidableEq, Repr

def Stamp.instant (a : Stamp) : Int := a.wall - a.offset
/-- `astimezone(timezone.utc)` -/
def normalise (a : Stamp) : Stamp := { wall := a.instant, offset := 0 }

theorem normalise_keeps_instant (a : Stamp) : (normalise a).instant = a.instant ∧ (normalise a).offset = 0 :=
  ⟨Int.sub_zero _, rfl⟩

/-- what is stored depends on the instant only, not on the zone it is presented in -/
theorem stored_independent_of_presentation (a b : Stamp) (h : a.instant = b.instant) : normalise a = normalise b :=
  congrArg (Stamp.mk · 0) h

theorem normalise_idempotent (a : Stamp) : normalise (normalise a) = normalise a :=
  stored_independent_of_presentation _ _ (normalise_keeps_instant a).1

/-- a time comparison in a query is the comparison of the point's instant with the instant of the
    right-hand side, at full (microsecond) resolution -/
theorem time_query_compares_instants (c : Cmp) (x : Time) (p : Point) :
    sem (.time (.cmp c (.time x))) p = ordCmp c (decide (p.time < x)) (p.time == x) :=
  Leaf.eval_cmp_time c x p.time

theorem adjacent_microseconds_distinguished (t : Time) (p : Point) (h : p.time = t) :
    sem (.time (.cmp .lt (.time (t + 1)))) p = true ∧ sem (.time (.cmp .lt (.time t))) p = false ∧
    sem (.time (.cmp .eq (.time (t + 1)))) p = false := by
  subst h
  simp only [time_query_compares_instants]
  exact ⟨decide_eq_true (Int.lt_succ _), decide_eq_false (Int.lt_irrefl _),
    beq_false_of_ne (Int.ne_of_lt (Int.lt_succ _))⟩

/-! ## the float keys of the index -/

/-- `r` is a rounding of `n` µs to a grid of `G` ticks per second, within half a tick -/
def NearGrid (G n r : Int) : Prop := 2 * (r * 1000000 - n * G) ≤ 1000000 ∧ 2 * (n * G - r * 1000000) ≤ 1000000
/-- `u` µs is a nearest-microsecond rounding of the grid value `r` -/
def NearMicro (G r u : Int) : Prop := 2 * (u * G - r * 1000000) ≤ G ∧ 2 * (r * 1000000 - u * G) ≤ G

/-- Displacing multiples of `G` by less than `G` in all keeps their order: if `x` is at most `a/2` above
    `n G` and `y` at most `b/2` below `m G`, where `a + b < 2 G` and `n < m`, then `x < y`.
    In units of 1/(10⁶ G) s the instant `n` µs is `n G` and the grid value `r` is `r · 10⁶`; `NearGrid` is
    such a pair of bounds with `a = 10⁶`, `NearMicro` one with `a = G`, and the facts below are instances. -/
theorem lt_of_near_multiples {G a b x y n m : Int} (hG : 0 ≤ G) (hab : a + b < G + G) (h : n < m)
    (hx : 2 * (x - n * G) ≤ a) (hy : 2 * (m * G - y) ≤ b) : x < y := by
  have gap : (n + 1) * G ≤ m * G := Int.mul_le_mul_of_nonneg_right h hG
  rw [Int.add_mul] at gap
  -- 2 (y − x) ≥ 2 (m G − n G) − (a + b) > 2 G − 2 G
  omega

/-- any two roundings (each within half a tick) of distinct microsecond instants to a grid finer than a
    microsecond are strictly ordered like the instants -/
theorem grid_strictMono (G n m rn rm : Int) (hG : 1000000 < G) (h : n < m)
    (hn : NearGrid G n rn) (hm : NearGrid G m rm) : rn < rm :=
  Int.lt_of_mul_lt_mul_right
    (lt_of_near_multiples (Int.le_of_lt (Int.lt_trans (by decide) hG)) (Int.add_lt_add hG hG) h hn.1 hm.2)
    (by decide)

/-- hence comparing float keys is comparing instants: `<`, `=` and `>` all agree -/
theorem float_keys_compare_like_instants (G : Int) (hG : 1000000 < G) (f : Int → Int)
    (hf : ∀ n, NearGrid G n (f n)) (n m : Int) :
    (f n < f m ↔ n < m) ∧ (f n = f m ↔ n = m) := by
  have mono : ∀ {a b}, a < b → f a < f b := fun h => grid_strictMono G _ _ _ _ hG h (hf _) (hf _)
  rcases Int.lt_trichotomy n m with h | rfl | h
  · simp [h, mono h, Int.ne_of_lt]
  · simp
  · simp [h, mono h, Int.lt_asymm, Int.ne_of_gt]

/-- converting a key back (`fromtimestamp`, rounding to the nearest microsecond) returns the instant:
    `n G` and `u G` lie within 10⁶/2 and `G`/2 of the same `r · 10⁶`, so neither `n < u` nor `u < n` -/
theorem grid_roundtrip (G n r u : Int) (hG : 1000000 < G) (hn : NearGrid G n r) (hu : NearMicro G r u) : u = n :=
  have h0 : 0 ≤ G := Int.le_of_lt (Int.lt_trans (by decide) hG)
  Int.le_antisymm
    (Int.not_lt.mp fun h => Int.lt_irrefl _
      (lt_of_near_multiples h0 (Int.add_lt_add_right hG G) h hn.1 hu.1))
    (Int.not_lt.mp fun h => Int.lt_irrefl _
      (lt_of_near_multiples h0 (Int.add_lt_add_left hG G) h hu.2 hn.2))

/-- 2²⁰ ticks per second is the spacing of binary64 just below 2³³ s -/
theorem grid20_roundtrip (n r u : Int) (hn : NearGrid 1048576 n r) (hu : NearMicro 1048576 r u) : u = n :=
  grid_roundtrip 1048576 n r u (by decide) hn hu

/-! ## consequences on the model -/

/-- the index path and the scan path give the same answer to a time query (instance of C01) -/
theorem time_query_same_on_both_paths (s₁ s₂ : State) (h₁ : Inv s₁) (h₂ : Inv s₂) (hst : s₁.storage = s₂.storage)
    (c : Cmp) (x : Time) (sorted : Bool) :
    (s₁.step (.search (.time (.cmp c (.time x))) none sorted)).2 =
    (s₂.step (.search (.time (.cmp c (.time x))) none sorted)).2 :=
  (C01.index_path_eq_scan_path s₁ s₂ h₁ h₂ hst _ none sorted nofun).1

/-- time-sorted results are in non-decreasing time order, ties in insertion order -/
theorem sorted_stable (db : DB) (q : Query) (m : Option String) :
    (Spec.search db q m true).Pairwise (fun a b => a.time ≤ b.time) ∧
    ∀ t, ((Spec.search db q m true).filter (fun p => p.time == t)) =
         ((Spec.search db q m false).filter (fun p => p.time == t)) :=
  (C01.sorted_is_stable_time_order db q m).2

/-- `update(time=…)`, static or callable: the stored time is the instant the argument denotes -/
theorem update_time_is_instant (u : Upd) (p p' : Point) (f : Time → Except Err Time) (t : Time)
    (hu : u.time = some f) (hf : f p.time = .ok t) (h : upd u p = .ok p') : p'.time = t := by
  -- `upd` is four steps and a `pure`; the first computes the time
  obtain ⟨t', ht, h⟩ := Except.bind_eq_ok.mp h
  obtain ⟨_, -, h⟩ := Except.bind_eq_ok.mp h
  obtain ⟨_, -, h⟩ := Except.bind_eq_ok.mp h
  obtain ⟨_, -, h⟩ := Except.bind_eq_ok.mp h
  cases h
  rw [hu] at ht
  exact Except.ok.inj (ht.symm.trans hf)

end TinyFlux.Props.C08
