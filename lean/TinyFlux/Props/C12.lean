import TinyFlux.Model.IO
import TinyFlux.Lemmas.IOLemmas
/-!
# C12 — a crash at any I/O step leaves the file holding the old or the new contents (partial)

For every prefix of the I/O steps of an operation (= the process dies between two I/O calls), what a
fresh reader finds (`afterCrash`: only what reached the OS) is the old contents or the new contents;
for `insert_multiple` the old contents plus a prefix of the new rows. The step lists are validated
against recorded traces, and the statement against real process deaths at every boundary.
*Partial*: power-loss durability, torn single writes and file-system specifics are outside the model.
-/
namespace TinyFlux.Props.C12
open TinyFlux.Model.IO
variable {R : Type}

theorem insert_crash_prefix (fs : FS R) (hq : Quiet fs) (rows : List R) (k : Nat) :
    ∃ j, j ≤ rows.length ∧ afterCrash (run fs ((appendSteps true rows).take k)) = fs.primary ++ rows.take j := by
  exact (append_flush fs hq.noPend rows).1 k

/-- remove / update that change something: stage to a temp file, flush, atomic replace -/
theorem rewrite_crash_atomic (fs : FS R) (hq : Quiet fs) (flush : Bool) (rows : List (Option R)) (rebuild : Bool) (k : Nat) :
    afterCrash (run fs ((rewriteSteps flush rows rebuild).take k)) = fs.primary ∨
    afterCrash (run fs ((rewriteSteps flush rows rebuild).take k)) = newRows rows := by
  exact ((atomic_rewrite flush rows rebuild _ fs rfl hq).2 k).1

/-- remove / update that change nothing never touch the file -/
theorem noop_rewrite_crash (fs : FS R) (hq : Quiet fs) (flush : Bool) (rows : List (Option R)) (scanned : Bool) (k : Nat) :
    afterCrash (run fs ((noopRewriteSteps flush rows scanned).take k)) = fs.primary := by
  exact (holds_safe (noopRewriteSteps_safe flush rows scanned) ⟨rfl, hq.noPend⟩ k).1

/-- remove_all (and a remove that matches everything): a single truncate -/
theorem reset_crash_atomic (fs : FS R) (hq : Quiet fs) (flush : Bool) (rows : List (Option R)) (scanned : Bool) (k : Nat) :
    (afterCrash (run fs ((resetSteps (R := R)).take k)) = fs.primary ∨ afterCrash (run fs ((resetSteps (R := R)).take k)) = []) ∧
    (afterCrash (run fs ((resetInTempSteps flush rows scanned).take k)) = fs.primary ∨
     afterCrash (run fs ((resetInTempSteps flush rows scanned).take k)) = []) := by
  exact ⟨((atomic_reset _ fs rfl hq).2 k).1,
    ((atomic_resetInTemp flush rows scanned _ fs rfl hq).2 k).1⟩

/-- reads never change the file -/
theorem scan_crash (fs : FS R) (hq : Quiet fs) (k : Nat) :
    afterCrash (run fs ((scanSteps (R := R)).take k)) = fs.primary := by
  exact (holds_safe (L := scanSteps) rfl ⟨rfl, hq.noPend⟩ k).1

/-- the protocol of the pinned commit — copy = truncate the destination, then write it — is *not* atomic -/
theorem truncating_copy_is_not_atomic :
    ∃ (fs : FS Nat) (steps : List (Step Nat)) (k : Nat), Quiet fs ∧ fs.primary = [1, 2, 3] ∧
      steps = [.pSeek0, .pTruncate, .pWrite 1, .pWrite 3, .pFlush] ∧
      afterCrash (run fs (steps.take k)) ≠ [1, 2, 3] ∧ afterCrash (run fs (steps.take k)) ≠ [1, 3] := by
  refine ⟨{ primary := [1, 2, 3] }, _, 2, ⟨rfl, rfl, rfl⟩, rfl, rfl, ?_, ?_⟩ <;>
    simp [afterCrash, exec]

end TinyFlux.Props.C12
