import TinyFlux.Props.C16
import TinyFlux.Props.C16EndToEnd
import TinyFlux.Props.Witness.File
/-!
# C16 — non-vacuity witness

The hypotheses of `insert_cost_independent_of_database` (two states with the same configuration) are satisfied
by two very different concrete states — a CSV database with auto-indexing holding three points with a valid
index, and the empty database; and a third one whose index is invalid — and the conclusion is evaluated: ten calls
for two points in each of them, the same ten calls.
The definitions below are the instance of `Props/Witness/File.lean` under this property's names. The theorem asks only
that the two states have the same configuration: `Witness.File.s_cfg`, and `step_refines` for the state after an insert.
-/
namespace TinyFlux.Props.C16
open TinyFlux.Model TinyFlux.Model.IO TinyFlux.Spec

/-! ## the concrete instance -/

/-- file-backed storage with `norm := id` (why: `Witness.File.cfg`), auto-indexing on -/
def witness_cfg : Cfg := { autoIndex := true, norm := id }

def witness_p1 : Point :=
  { time := 1000000, meas := "cpu", tags := [("host", some "a")], fields := [("load", some (.fin 1))] }
def witness_p2 : Point :=
  { time := 2000000, meas := "cpu", tags := [("host", some "b")], fields := [("load", some (.fin (5/2)))] }
def witness_p3 : Point :=
  { time := 3000000, meas := "mem", tags := [("host", some "a"), ("dc", none)], fields := [("free", none)] }
def witness_p4 : Point :=
  { time := 4000000, meas := "cpu", tags := [("host", some "c")], fields := [("load", some (.fin 3))] }
def witness_p5 : Point :=
  { time := 1500000, meas := "disk", tags := [], fields := [("used", some (.fin (-7)))] }
/-- `witness_p2` after the update below -/
def witness_p2' : Point :=
  { time := 2000000, meas := "cpu", tags := [("host", some "b")], fields := [("load", some (.fin 7))] }

def witness_history : List Op := [.insert [some witness_p1, some witness_p2] none, .insert [some witness_p3] none]

def witness_s : State := (runM (init witness_cfg) witness_history).1

/-- the file that goes with it: the three rows, nothing buffered, no temp file, handle open at the end -/
def witness_fs : FS Point := { primary := [witness_p1, witness_p2, witness_p3] }

/-- `db.remove(TagQuery().host == "b")`: removes the second of the three points -/
def witness_remove : Op := .remove (.tag "host" (.cmp .eq (.str "b"))) none
/-- the updater `fields={"load": v}` -/
def witness_setLoad (v : Option Num) : Upd :=
  { time := none, meas := none, tags := none, fields := some (fun _ => .ok [("load", v)]),
    unsetTags := [], unsetFields := [] }
/-- `db.update(TagQuery().host == "b", fields={"load": 7})`: changes the second point -/
def witness_update : Op := .update false (.tag "host" (.cmp .eq (.str "b"))) (witness_setLoad (some (.fin 7))) none
/-- `db.insert_multiple([p4, p5])` (the second one out of time order) -/
def witness_insert : Op := .insert [some witness_p4, some witness_p5] none
/-- `db.count(MeasurementQuery() == "cpu")` -/
def witness_count : Op := .count (.meas (.cmp .eq (.str "cpu"))) none
/-- a remove that matches nothing -/
def witness_remove0 : Op := .remove (.tag "host" (.cmp .eq (.str "zzz"))) none

/-! ## the hypotheses hold: taken over from `Witness.File` -/

theorem witness_s_eq : witness_s = Witness.File.s := rfl

theorem witness_inv : Inv witness_s := Witness.File.inv
theorem witness_fileOf : FileOf witness_s witness_fs := Witness.File.fileOf

theorem witness_storage : witness_s.storage = [witness_p1, witness_p2, witness_p3] := witness_s_eq ▸ Witness.File.storage
theorem witness_index_valid : witness_s.index.valid = true := witness_s_eq ▸ Witness.File.index_valid
theorem witness_index_nontrivial : witness_s.index.numItems = 3 ∧ witness_s.index.ts = [1000000, 2000000, 3000000] :=
  witness_s_eq ▸ Witness.File.index_nontrivial

theorem witness_remove_ok : OpOK witness_s.cfg witness_remove ∧ MeasOK witness_remove :=
  witness_s_eq ▸ Witness.File.remove_ok
theorem witness_update_ok : OpOK witness_s.cfg witness_update ∧ MeasOK witness_update :=
  witness_s_eq ▸ Witness.File.update_ok
theorem witness_insert_ok : OpOK witness_s.cfg witness_insert ∧ MeasOK witness_insert :=
  witness_s_eq ▸ Witness.File.insert_ok
theorem witness_count_ok : OpOK witness_s.cfg witness_count ∧ MeasOK witness_count :=
  witness_s_eq ▸ Witness.File.count_ok

/-! ## the theorem, instantiated -/

def witness_pts : List (Option Point) := [some witness_p4, some witness_p5]

/-- a third state: after an out-of-order insert the index is invalid, five points are stored -/
def witness_s' : State := (witness_s.step witness_insert).1

theorem witness_states_differ :
    witness_s.storage.length = 3 ∧ witness_s.index.valid = true ∧
    (init witness_cfg).storage.length = 0 ∧
    witness_s'.storage.length = 5 ∧ witness_s'.index.valid = false := by
  decide +kernel

/-- three points stored vs. the empty database, `flush_on_insert=True` -/
theorem witness_insert_cost :
    opSteps witness_s true (.insert witness_pts none) = opSteps (init witness_cfg) true (.insert witness_pts none) ∧
    (opSteps witness_s true (.insert witness_pts none)).length =
      (if true then 5 else 2) * (insertedRows witness_s.cfg none witness_pts).length ∧
    (∀ st ∈ opSteps witness_s true (.insert witness_pts none), st.isRead = false) ∧
    (witness_s.step (.insert witness_pts none)).1.storage = witness_s.storage ++ insertedRows witness_s.cfg none witness_pts :=
  insert_cost_independent_of_database witness_s (init witness_cfg) (witness_s_eq ▸ Witness.File.s_cfg)
    true witness_pts none

/-- five points stored and an invalid index vs. three points and a valid one, `flush_on_insert=False`, through a
    measurement handle -/
theorem witness_insert_cost' :
    opSteps witness_s' false (.insert witness_pts (some "net")) = opSteps witness_s false (.insert witness_pts (some "net")) ∧
    (opSteps witness_s' false (.insert witness_pts (some "net"))).length =
      (if false then 5 else 2) * (insertedRows witness_s'.cfg (some "net") witness_pts).length ∧
    (∀ st ∈ opSteps witness_s' false (.insert witness_pts (some "net")), st.isRead = false) ∧
    (witness_s'.step (.insert witness_pts (some "net"))).1.storage =
      witness_s'.storage ++ insertedRows witness_s'.cfg (some "net") witness_pts :=
  insert_cost_independent_of_database witness_s' witness_s
    (step_refines witness_s witness_inv witness_insert witness_insert_ok.1 witness_insert_ok.2).2.2.1
    false witness_pts (some "net")

/-- the numbers: ten calls (five per point) whatever is stored, four without flushing; the rows written -/
theorem witness_insert_cost_concrete :
    (opSteps witness_s true (.insert witness_pts none)).length = 10 ∧
    (opSteps (init witness_cfg) true (.insert witness_pts none)).length = 10 ∧
    (opSteps witness_s' true (.insert witness_pts none)).length = 10 ∧
    (opSteps witness_s' false (.insert witness_pts (some "net"))).length = 4 ∧
    insertedRows witness_s.cfg none witness_pts = [witness_p4, witness_p5] ∧
    (witness_s.step (.insert witness_pts none)).1.storage =
      [witness_p1, witness_p2, witness_p3, witness_p4, witness_p5] ∧
    (run witness_fs (opSteps witness_s true (.insert witness_pts none))).primary =
      [witness_p1, witness_p2, witness_p3, witness_p4, witness_p5] := by
  decide +kernel

example : 5 < (opSteps witness_s true (.insert witness_pts none)).length := by decide +kernel

/-- in contrast, the cost of a remove does depend on what is stored: 22 calls here, 3 on the empty database -/
theorem witness_remove_cost_depends :
    (opSteps witness_s true witness_remove).length = 22 ∧ (opSteps (init witness_cfg) true witness_remove).length = 3 :=
  ⟨witness_s_eq ▸ Witness.File.remove_steps, by decide +kernel⟩

/-! ## the protocol-level theorems at the same file -/

theorem witness_quiet : Quiet witness_fs := Witness.File.quiet

example := insert_steps_count [witness_p4, witness_p5]
example := insert_is_append witness_fs witness_quiet [witness_p4, witness_p5]
example := insert_never_touches_old_rows witness_fs witness_quiet true [witness_p4, witness_p5] 7

end TinyFlux.Props.C16
