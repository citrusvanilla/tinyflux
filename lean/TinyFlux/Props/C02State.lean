import TinyFlux.Footprint.TinyFlux
import TinyFlux.Footprint.CSVStorage
import TinyFlux.Footprint.MemoryStorage
import TinyFlux.Footprint.Index
import TinyFlux.Generated.CallGraph
import TinyFlux.Model.CallGraph

/-! # C02: the state the code keeps is the state the Model has (database, both storages, index)

Over `Generated/Footprint.lean` (regenerated from the source on every run). A cache, a memo table or a flag added
to one of these classes or modules is state no theorem of this property covers: these stop checking. -/
namespace TinyFlux.Props.C02
open TinyFlux

/-- every attribute these classes assign is a component of the Model's state (`Model/Footprint.lean` says which) -/
theorem state_is_the_models_state :
    Generated.classState.lookup "database.TinyFlux" = some Model.Footprint.tinyFlux ∧
    Generated.classState.lookup "storages.CSVStorage" = some Model.Footprint.csvStorage ∧
    Generated.classState.lookup "storages.MemoryStorage" = some Model.Footprint.memoryStorage ∧
    Generated.classState.lookup "index.Index" = some Model.Footprint.index :=
  ⟨Footprint.tinyFlux, Footprint.csvStorage, Footprint.memoryStorage, Footprint.index⟩

/-- no module-level variable, caching decorator, `global`/`nonlocal` or mutable default argument beyond the
    modelled ones; no class the Model does not know -/
theorem no_hidden_state :
    Generated.moduleState.lookup "database" = Model.Footprint.modules.lookup "database" ∧
    Generated.moduleState.lookup "storages" = Model.Footprint.modules.lookup "storages" ∧
    Generated.classState.map (·.1) = Model.Footprint.classNames := ⟨rfl, rfl, rfl⟩

/-- every function of these classes / modules calls, catches and raises exactly what it did when the Model was
    written against it and validated (`Model/CallGraph.lean`); and there is no table the Model does not know -/
theorem code_uses_the_modelled_primitives :
    Generated.calls_database_TinyFlux = Model.CallGraph.calls_database_TinyFlux ∧
    Generated.calls_database_toplevel = Model.CallGraph.calls_database_toplevel ∧
    Generated.calls_storages_Storage = Model.CallGraph.calls_storages_Storage ∧
    Generated.calls_storages_CSVStorage = Model.CallGraph.calls_storages_CSVStorage ∧
    Generated.calls_storages_MemoryStorage = Model.CallGraph.calls_storages_MemoryStorage ∧
    Generated.calls_storages_toplevel = Model.CallGraph.calls_storages_toplevel ∧
    Generated.calls_index_Index = Model.CallGraph.calls_index_Index ∧
    Generated.calls_index_IndexResult = Model.CallGraph.calls_index_IndexResult ∧
    Generated.calls_index_toplevel = Model.CallGraph.calls_index_toplevel ∧
    Generated.callGraphTables = Model.CallGraph.callGraphTables := ⟨rfl, rfl, rfl, rfl, rfl, rfl, rfl, rfl, rfl, rfl⟩

end TinyFlux.Props.C02
