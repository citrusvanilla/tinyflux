import TinyFlux.Props.C13
import TinyFlux.Props.C13EndToEnd
import TinyFlux.Props.Witness.File
/-!
# C13 — non-vacuity witness

The hypotheses of `every_operation_is_fault_atomic` are jointly satisfied by a CSV database with auto-indexing
holding three points, the file that goes with it, and concrete operations; the failing call is taken in the middle
of a rewrite, just after the atomic replace, and in the middle of an insert.
The definitions below are the instance of `Props/Witness/File.lean` under this property's names; that `Inv`, `FileOf`,
`OpOK` and `MeasOK` hold of it is proved there.
-/
namespace TinyFlux.Props.C13
open TinyFlux.Model TinyFlux.Model.IO TinyFlux.Spec

/-! ## the concrete instance -/

/-- file-backed storage with `norm := id` (why: `Witness.File.cfg`), auto-indexing on -/
def witness_cfg : Cfg := { autoIndex := true, norm := id }

def witness_p1 : Point :=
  { time := 1000000, meas := "cpu", tags := [("host", some "a")], fields := [("load", some (.fin 1))] }
def witness_p2 : Point :=
  { time := 2000000, meas := "cpu", tags := [("host", some "b")], fields := [("load", some (.fin (5/2)))] }
def witness_p3 : Point :=
  { time := 3000000, meas := "mem", tags := [("host", some "a"), ("dc", none)], fields := [("free", none)] }
def witness_p4 : Point :=
  { time := 4000000, meas := "cpu", tags := [("host", some "c")], fields := [("load", some (.fin 3))] }
def witness_p5 : Point :=
  { time := 1500000, meas := "disk", tags := [], fields := [("used", some (.fin (-7)))] }
/-- `witness_p2` after the update below -/
def witness_p2' : Point :=
  { time := 2000000, meas := "cpu", tags := [("host", some "b")], fields := [("load", some (.fin 7))] }

def witness_history : List Op := [.insert [some witness_p1, some witness_p2] none, .insert [some witness_p3] none]

def witness_s : State := (runM (init witness_cfg) witness_history).1

/-- the file that goes with it: the three rows, nothing buffered, no temp file, handle open at the end -/
def witness_fs : FS Point := { primary := [witness_p1, witness_p2, witness_p3] }

/-- `db.remove(TagQuery().host == "b")`: removes the second of the three points -/
def witness_remove : Op := .remove (.tag "host" (.cmp .eq (.str "b"))) none
/-- the updater `fields={"load": v}` -/
def witness_setLoad (v : Option Num) : Upd :=
  { time := none, meas := none, tags := none, fields := some (fun _ => .ok [("load", v)]),
    unsetTags := [], unsetFields := [] }
/-- `db.update(TagQuery().host == "b", fields={"load": 7})`: changes the second point -/
def witness_update : Op := .update false (.tag "host" (.cmp .eq (.str "b"))) (witness_setLoad (some (.fin 7))) none
/-- `db.insert_multiple([p4, p5])` (the second one out of time order) -/
def witness_insert : Op := .insert [some witness_p4, some witness_p5] none
/-- `db.count(MeasurementQuery() == "cpu")` -/
def witness_count : Op := .count (.meas (.cmp .eq (.str "cpu"))) none
/-- a remove that matches nothing -/
def witness_remove0 : Op := .remove (.tag "host" (.cmp .eq (.str "zzz"))) none

/-! ## the hypotheses hold: taken over from `Witness.File` -/

theorem witness_s_eq : witness_s = Witness.File.s := rfl

theorem witness_inv : Inv witness_s := Witness.File.inv
theorem witness_fileOf : FileOf witness_s witness_fs := Witness.File.fileOf

theorem witness_storage : witness_s.storage = [witness_p1, witness_p2, witness_p3] := witness_s_eq ▸ Witness.File.storage
theorem witness_index_valid : witness_s.index.valid = true := witness_s_eq ▸ Witness.File.index_valid
theorem witness_index_nontrivial : witness_s.index.numItems = 3 ∧ witness_s.index.ts = [1000000, 2000000, 3000000] :=
  witness_s_eq ▸ Witness.File.index_nontrivial

theorem witness_remove_ok : OpOK witness_s.cfg witness_remove ∧ MeasOK witness_remove :=
  witness_s_eq ▸ Witness.File.remove_ok
theorem witness_update_ok : OpOK witness_s.cfg witness_update ∧ MeasOK witness_update :=
  witness_s_eq ▸ Witness.File.update_ok
theorem witness_insert_ok : OpOK witness_s.cfg witness_insert ∧ MeasOK witness_insert :=
  witness_s_eq ▸ Witness.File.insert_ok
theorem witness_count_ok : OpOK witness_s.cfg witness_count ∧ MeasOK witness_count :=
  witness_s_eq ▸ Witness.File.count_ok

/-! ## the theorem, instantiated -/

/-- an I/O error after 12 of the 22 calls of the remove (the temp file half written), then the `finally` cleanup -/
theorem witness_remove_fault :
    let fs' := run witness_fs ((opSteps witness_s true witness_remove).take 12 ++ [.tClose, .tUnlink])
    fs'.temp = none ∧
    (afterClose fs' = witness_s.storage ∨ afterClose fs' = (witness_s.step witness_remove).1.storage ∨
     ∃ pts m j, witness_remove = .insert pts m ∧
       afterClose fs' = witness_s.storage ++ (insertedRows witness_s.cfg m pts).take j) :=
  every_operation_is_fault_atomic witness_s witness_inv witness_remove witness_remove_ok.1 witness_remove_ok.2
    witness_fs witness_fileOf 12

/-- … before the cleanup the temp file exists (one row, another buffered); after it, it is gone and the database
    file holds the old three rows -/
theorem witness_remove_fault_concrete :
    (opSteps witness_s true witness_remove).length = 22 ∧
    (run witness_fs ((opSteps witness_s true witness_remove).take 12)).temp = some [witness_p1] ∧
    (run witness_fs ((opSteps witness_s true witness_remove).take 12)).pendT = [witness_p3] ∧
    (run witness_fs ((opSteps witness_s true witness_remove).take 12 ++ [.tClose, .tUnlink])).temp = none ∧
    afterClose (run witness_fs ((opSteps witness_s true witness_remove).take 12 ++ [.tClose, .tUnlink])) =
      [witness_p1, witness_p2, witness_p3] := by
  decide +kernel

example : 5 < (opSteps witness_s true witness_remove).length := by
  rw [witness_remove_fault_concrete.1]
  decide

/-- an error after the replace (20 calls): the new contents; old ≠ new -/
theorem witness_remove_fault_late :
    afterClose (run witness_fs ((opSteps witness_s true witness_remove).take 20 ++ [.tClose, .tUnlink])) =
      [witness_p1, witness_p3] ∧
    (witness_s.step witness_remove).1.storage = [witness_p1, witness_p3] ∧
    witness_s.storage ≠ (witness_s.step witness_remove).1.storage := by
  decide +kernel

/-- the update, failing after 15 of its 29 calls -/
theorem witness_update_fault :
    let fs' := run witness_fs ((opSteps witness_s true witness_update).take 15 ++ [.tClose, .tUnlink])
    fs'.temp = none ∧
    (afterClose fs' = witness_s.storage ∨ afterClose fs' = (witness_s.step witness_update).1.storage ∨
     ∃ pts m j, witness_update = .insert pts m ∧
       afterClose fs' = witness_s.storage ++ (insertedRows witness_s.cfg m pts).take j) :=
  every_operation_is_fault_atomic witness_s witness_inv witness_update witness_update_ok.1 witness_update_ok.2
    witness_fs witness_fileOf 15

theorem witness_update_fault_concrete :
    (opSteps witness_s true witness_update).length = 29 ∧
    (run witness_fs ((opSteps witness_s true witness_update).take 15)).temp = some [witness_p1, witness_p2'] ∧
    (run witness_fs ((opSteps witness_s true witness_update).take 15 ++ [.tClose, .tUnlink])).temp = none ∧
    afterClose (run witness_fs ((opSteps witness_s true witness_update).take 15 ++ [.tClose, .tUnlink])) =
      [witness_p1, witness_p2, witness_p3] := by
  decide +kernel

/-- the insert of two points, failing after 7 of its 10 calls (second row written into the buffer, not flushed) -/
theorem witness_insert_fault :
    let fs' := run witness_fs ((opSteps witness_s true witness_insert).take 7 ++ [.tClose, .tUnlink])
    fs'.temp = none ∧
    (afterClose fs' = witness_s.storage ∨ afterClose fs' = (witness_s.step witness_insert).1.storage ∨
     ∃ pts m j, witness_insert = .insert pts m ∧
       afterClose fs' = witness_s.storage ++ (insertedRows witness_s.cfg m pts).take j) :=
  every_operation_is_fault_atomic witness_s witness_inv witness_insert witness_insert_ok.1 witness_insert_ok.2
    witness_fs witness_fileOf 7

/-- … the buffered row counts: old rows plus both new ones here, plus one of them after 6 calls (third disjunct,
    `j = 1`: neither the old nor the new contents) -/
theorem witness_insert_fault_concrete :
    afterClose (run witness_fs ((opSteps witness_s true witness_insert).take 7 ++ [.tClose, .tUnlink])) =
      [witness_p1, witness_p2, witness_p3, witness_p4, witness_p5] ∧
    afterClose (run witness_fs ((opSteps witness_s true witness_insert).take 6 ++ [.tClose, .tUnlink])) =
      witness_s.storage ++ (insertedRows witness_s.cfg none [some witness_p4, some witness_p5]).take 1 ∧
    afterClose (run witness_fs ((opSteps witness_s true witness_insert).take 6 ++ [.tClose, .tUnlink])) ≠ witness_s.storage ∧
    afterClose (run witness_fs ((opSteps witness_s true witness_insert).take 6 ++ [.tClose, .tUnlink])) ≠
      (witness_s.step witness_insert).1.storage := by
  decide +kernel

/-- the count -/
theorem witness_count_fault :
    let fs' := run witness_fs ((opSteps witness_s true witness_count).take 1 ++ [.tClose, .tUnlink])
    fs'.temp = none ∧
    (afterClose fs' = witness_s.storage ∨ afterClose fs' = (witness_s.step witness_count).1.storage ∨
     ∃ pts m j, witness_count = .insert pts m ∧
       afterClose fs' = witness_s.storage ++ (insertedRows witness_s.cfg m pts).take j) :=
  every_operation_is_fault_atomic witness_s witness_inv witness_count witness_count_ok.1 witness_count_ok.2
    witness_fs witness_fileOf 1

/-! ## the protocol-level theorems at the same file -/

theorem witness_quiet : Quiet witness_fs := Witness.File.quiet

example := rewrite_fault_atomic witness_fs witness_quiet true [some witness_p1, none, some witness_p3] false 12
example := insert_fault_prefix witness_fs witness_quiet true [witness_p4, witness_p5] 7

end TinyFlux.Props.C13
