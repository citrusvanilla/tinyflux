import TinyFlux.Model.Codec
import TinyFlux.Lemmas.CodecLemmas
/-!
# C05 — every valid Point survives serialisation to CSV and back unchanged

Row level. `serialize` / `deserialize` model `point.py` character by character over the constants and
sniff positions regenerated from the source; `float`/`datetime` text conversions are parameters with
explicit laws. `Codable` names exactly what the on-disk format cannot carry; each excluded case has a
counter-example theorem below (they are known findings, pinned by the test-suite's format assertions).
The file level composes this with the csv-module / text-codec assumptions of the trusted base.
-/
namespace TinyFlux.Props.C05
open TinyFlux.Spec TinyFlux.Model.Codec TinyFlux.Generated TinyFlux.Lemmas.CodecLemmas

/-- the characters the decoder looks at discriminate the four prefixes, for every key (also the empty
    key, keys starting with `_`, `t`, `f`, and the reserved words) -/
theorem sniffing_sound (c : Bool) (k : Str) :
    sniffTag (tagPre c ++ k) = some (some (tagPre c).length) ∧
    sniffTag (fieldPre c ++ k) = some none ∧
    sniffField (fieldPre c ++ k) = some (fieldPre c).length := by
  exact ⟨sniff_tag_key c k, sniff_field_key_not_tag c k, sniff_field_key c k⟩

/-- **C05 (partial: `Codable` points)**: a row written in either prefix style decodes to the point it was
    written from — same instant, measurement, tags (still tags) and fields (still fields) -/
theorem row_roundtrip_partial (fc : FieldCodec) (tc : TimeCodec) (hs : SentinelNotNumber fc) (compact : Bool)
    (p : Point) (hc : Codable fc tc p) :
    deserialize fc tc (serialize fc tc compact p) = some p := by
  rw [deserialize_serialize_scrub fc tc compact p hc.timeOk hc.measOk hc.tagKeys hc.fieldKeys
    (fun kv h => decodeField_fieldValCell fc hs _ (hc.fieldVals kv h)), (scrubTags_eq_self p).mpr hc.tagVals]

/-- distinct codable points never decode to the same point: their rows differ (whatever the styles) -/
theorem injective_partial (fc : FieldCodec) (tc : TimeCodec) (hs : SentinelNotNumber fc) (c c' : Bool)
    (p q : Point) (hp : Codable fc tc p) (hq : Codable fc tc q)
    (h : serialize fc tc c p = serialize fc tc c' q) : p = q := by
  have h1 := row_roundtrip_partial fc tc hs c p hp
  have h2 := row_roundtrip_partial fc tc hs c' q hq
  rw [h, h2] at h1
  exact (Option.some.inj h1).symm

/-- tags stay tags and fields stay fields: the decoded tag set is the written tag set, the decoded field
    set the written field set (a corollary kept separate because it is what the property says) -/
theorem tags_stay_tags_fields_stay_fields (fc : FieldCodec) (tc : TimeCodec) (hs : SentinelNotNumber fc)
    (compact : Bool) (p : Point) (hc : Codable fc tc p) :
    ∃ q, deserialize fc tc (serialize fc tc compact p) = some q ∧ q.tags = p.tags ∧ q.fields = p.fields := by
  exact ⟨p, row_roundtrip_partial fc tc hs compact p hc, rfl, rfl⟩

/-! ## what the format cannot carry: the full statement is false of the code -/

/-- a tag whose value is the sentinel text comes back as `None` -/
theorem counterexample_none_sentinel (fc : FieldCodec) (tc : TimeCodec) (h0 : tc.fromIso (tc.iso 0) = some 0) :
    deserialize fc tc (serialize fc tc false { time := 0, meas := "m", tags := [("a", some "_none")], fields := [] })
      = some { time := 0, meas := "m", tags := [("a", none)], fields := [] } := by
  rw [deserialize_serialize_scrub fc tc false _ h0 nofun (by simp) (by simp) (by simp)]
  simp [scrubTags, scrub, noneStr]

/-- the empty measurement name is written as is and comes back unchanged (it used to be replaced by the
    sentinel; repaired, see known_findings.json) -/
theorem empty_measurement_roundtrips (fc : FieldCodec) (tc : TimeCodec) (h0 : tc.fromIso (tc.iso 0) = some 0) :
    deserialize fc tc (serialize fc tc false { time := 0, meas := "", tags := [], fields := [] })
      = some { time := 0, meas := "", tags := [], fields := [] } := by
  -- `measEmptyAsSentinel` is `false`: that is the repair, and what `nofun` sees
  exact deserialize_serialize_scrub fc tc false _ h0 nofun (by simp) (by simp) (by simp)

/-- a field value that `float` does not represent exactly comes back as the rounded value: for any
    codec whose `repr` goes through a rounding `fl`, the decoded value is `fl n`, not `n` -/
theorem counterexample_unrepresentable (fc : FieldCodec) (tc : TimeCodec) (h0 : tc.fromIso (tc.iso 0) = some 0)
    (n n' : Num) (hne : n ≠ n') (hparse : fc.parse (fc.repr n) = some n')
    (hnd : fc.repr n ≠ [] ∧ isDigits (fc.repr n) = false ∧ ¬ (∃ t, fc.repr n = '-' :: t ∧ isDigits t = true)) :
    deserialize fc tc (serialize fc tc false { time := 0, meas := "m", tags := [], fields := [("f", some n)] })
      = some { time := 0, meas := "m", tags := [], fields := [("f", some n')] } := by
  have _ := hne  -- (the hypothesis only says the decoded point differs from the written one)
  have e : serialize fc tc false { time := 0, meas := "m", tags := [], fields := [("f", some n)] }
      = [tc.iso 0, "m".toList, fieldPre false ++ "f".toList, fc.repr n] := rfl
  rw [e]
  simp only [deserialize, h0, parseTags_fieldKey, parseFields_fieldKey,
    decodeField_of fc _ _ hnd.1 hnd.2.1 hnd.2.2 hparse]
  simp only [parseFields, Option.map_some, Option.bind_some, toDict, List.map_nil, List.foldl_nil,
    List.foldl_cons, dictSet, String.ofList_toList]

end TinyFlux.Props.C05
