import TinyFlux.Props.C15
import TinyFlux.Props.C15EndToEnd
import TinyFlux.Props.Witness.File
/-!
# C15 — non-vacuity witness

The hypotheses of the three end-to-end theorems of C15 are jointly satisfied by a CSV database with auto-indexing
holding three points and the file that goes with it: read operations that do and do not touch the file, removes and
updates that report 0 or raise (some after streaming the whole file into a temp file), and rewrites whose temp
file exists half-way and is gone at the end.
The definitions below are the instance of `Props/Witness/File.lean` under this property's names; that `Inv`, `FileOf`,
`OpOK` and `MeasOK` hold of it is proved there.
-/
namespace TinyFlux.Props.C15
open TinyFlux.Model TinyFlux.Model.IO TinyFlux.Spec

/-! ## the concrete instance -/

/-- file-backed storage with `norm := id` (why: `Witness.File.cfg`), auto-indexing on -/
def witness_cfg : Cfg := { autoIndex := true, norm := id }

def witness_p1 : Point :=
  { time := 1000000, meas := "cpu", tags := [("host", some "a")], fields := [("load", some (.fin 1))] }
def witness_p2 : Point :=
  { time := 2000000, meas := "cpu", tags := [("host", some "b")], fields := [("load", some (.fin (5/2)))] }
def witness_p3 : Point :=
  { time := 3000000, meas := "mem", tags := [("host", some "a"), ("dc", none)], fields := [("free", none)] }
def witness_p4 : Point :=
  { time := 4000000, meas := "cpu", tags := [("host", some "c")], fields := [("load", some (.fin 3))] }
def witness_p5 : Point :=
  { time := 1500000, meas := "disk", tags := [], fields := [("used", some (.fin (-7)))] }
/-- `witness_p2` after the update below -/
def witness_p2' : Point :=
  { time := 2000000, meas := "cpu", tags := [("host", some "b")], fields := [("load", some (.fin 7))] }

def witness_history : List Op := [.insert [some witness_p1, some witness_p2] none, .insert [some witness_p3] none]

def witness_s : State := (runM (init witness_cfg) witness_history).1

/-- the file that goes with it: the three rows, nothing buffered, no temp file, handle open at the end -/
def witness_fs : FS Point := { primary := [witness_p1, witness_p2, witness_p3] }

/-- `db.remove(TagQuery().host == "b")`: removes the second of the three points -/
def witness_remove : Op := .remove (.tag "host" (.cmp .eq (.str "b"))) none
/-- the updater `fields={"load": v}` -/
def witness_setLoad (v : Option Num) : Upd :=
  { time := none, meas := none, tags := none, fields := some (fun _ => .ok [("load", v)]),
    unsetTags := [], unsetFields := [] }
/-- `db.update(TagQuery().host == "b", fields={"load": 7})`: changes the second point -/
def witness_update : Op := .update false (.tag "host" (.cmp .eq (.str "b"))) (witness_setLoad (some (.fin 7))) none
/-- `db.insert_multiple([p4, p5])` (the second one out of time order) -/
def witness_insert : Op := .insert [some witness_p4, some witness_p5] none
/-- `db.count(MeasurementQuery() == "cpu")` -/
def witness_count : Op := .count (.meas (.cmp .eq (.str "cpu"))) none
/-- a remove that matches nothing -/
def witness_remove0 : Op := .remove (.tag "host" (.cmp .eq (.str "zzz"))) none

/-! ## the hypotheses hold: taken over from `Witness.File` -/

theorem witness_s_eq : witness_s = Witness.File.s := rfl

theorem witness_inv : Inv witness_s := Witness.File.inv
theorem witness_fileOf : FileOf witness_s witness_fs := Witness.File.fileOf

theorem witness_storage : witness_s.storage = [witness_p1, witness_p2, witness_p3] := witness_s_eq ▸ Witness.File.storage
theorem witness_index_valid : witness_s.index.valid = true := witness_s_eq ▸ Witness.File.index_valid
theorem witness_index_nontrivial : witness_s.index.numItems = 3 ∧ witness_s.index.ts = [1000000, 2000000, 3000000] :=
  witness_s_eq ▸ Witness.File.index_nontrivial

theorem witness_remove_ok : OpOK witness_s.cfg witness_remove ∧ MeasOK witness_remove :=
  witness_s_eq ▸ Witness.File.remove_ok
theorem witness_insert_ok : OpOK witness_s.cfg witness_insert ∧ MeasOK witness_insert :=
  witness_s_eq ▸ Witness.File.insert_ok
theorem witness_count_ok : OpOK witness_s.cfg witness_count ∧ MeasOK witness_count :=
  witness_s_eq ▸ Witness.File.count_ok
theorem witness_any_update_ok (all : Bool) (q : Query) (u : Upd) :
    OpOK witness_s.cfg (.update all q u none) ∧ MeasOK (.update all q u none) :=
  witness_s_eq ▸ Witness.File.any_update_ok all q u

/-! ## reads -/

/-- a search that iterates the file -/
def witness_search : Op := .search (.tag "host" (.cmp .eq (.str "a"))) none false

/-- `every_read_operation_leaves_the_file_alone` at the count (answered from the index: no I/O) and at the search
    (a `seek(0)` and a read) -/
theorem witness_count_reads : ∀ st ∈ opSteps witness_s true witness_count, st.mutatesPrimary = false :=
  every_read_operation_leaves_the_file_alone witness_s true witness_count rfl

theorem witness_search_reads : ∀ st ∈ opSteps witness_s true witness_search, st.mutatesPrimary = false :=
  every_read_operation_leaves_the_file_alone witness_s true witness_search rfl

theorem witness_reads_concrete :
    (witness_s.step witness_count).2 = .nat 2 ∧ (opSteps witness_s true witness_count).length = 0 ∧
    (witness_s.step witness_search).2 = .points [witness_p1, witness_p3] ∧
    (opSteps witness_s true witness_search).length = 2 ∧
    (run witness_fs (opSteps witness_s true witness_search)).primary = [witness_p1, witness_p2, witness_p3] := by
  decide +kernel

/-- the conclusion is not true of every operation: the remove does make a mutating call -/
theorem witness_remove_mutates : ∃ st ∈ opSteps witness_s true witness_remove, st.mutatesPrimary = true := by
  have h : (opSteps witness_s true witness_remove).any Step.mutatesPrimary = true := by decide +kernel
  exact List.any_eq_true.mp h

/-! ## writes that change nothing -/

/-- a remove that matches nothing, found out by streaming the whole file (the query is not index-exact) -/
def witness_removeScan0 : Op :=
  .remove (.and (.not (.field "load" .exists)) (.tag "host" (.cmp .eq (.str "b")))) none
/-- an update that selects a point and leaves it as it is -/
def witness_updateSame : Op :=
  .update false (.tag "host" (.cmp .eq (.str "b"))) (witness_setLoad (some (.fin (5/2)))) none
/-- an update whose callable raises -/
def witness_updRaise : Upd :=
  { time := none, meas := none, tags := none, fields := some (fun _ => .error .user), unsetTags := [], unsetFields := [] }
def witness_updateRaise : Op := .update false (.tag "host" (.cmp .eq (.str "b"))) witness_updRaise none

/-- `every_noop_write_leaves_the_file_alone` at a remove by index that finds nothing (3 calls) … -/
theorem witness_remove0_noop : ∀ st ∈ opSteps witness_s true witness_remove0, st.mutatesPrimary = false :=
  every_noop_write_leaves_the_file_alone witness_s witness_inv true witness_remove0 (Or.inl ⟨_, _, rfl⟩)
    trivial Witness.File.remove0_ok.2 (Or.inl (by decide +kernel))

/-- … at a remove by scan that finds nothing (23 calls: all three rows are staged in the temp file, which is then
    discarded) … -/
theorem witness_removeScan0_noop : ∀ st ∈ opSteps witness_s true witness_removeScan0, st.mutatesPrimary = false :=
  every_noop_write_leaves_the_file_alone witness_s witness_inv true witness_removeScan0 (Or.inl ⟨_, _, rfl⟩)
    trivial (by simp [MeasOK, witness_removeScan0]) (Or.inl (by decide +kernel))

/-- … at an update that changes nothing (23 calls, reports 0) … -/
theorem witness_updateSame_noop : ∀ st ∈ opSteps witness_s true witness_updateSame, st.mutatesPrimary = false :=
  every_noop_write_leaves_the_file_alone witness_s witness_inv true witness_updateSame
    (Or.inr (Or.inr ⟨_, _, _, _, rfl⟩)) (witness_any_update_ok _ _ _).1 (witness_any_update_ok _ _ _).2
    (Or.inl (by decide +kernel))

/-- … at an update that raises part-way (the second disjunct of `hout`) … -/
theorem witness_updateRaise_noop : ∀ st ∈ opSteps witness_s true witness_updateRaise, st.mutatesPrimary = false :=
  every_noop_write_leaves_the_file_alone witness_s witness_inv true witness_updateRaise
    (Or.inr (Or.inr ⟨_, _, _, _, rfl⟩)) (witness_any_update_ok _ _ _).1 (witness_any_update_ok _ _ _).2
    (Or.inr ⟨.user, by decide +kernel⟩)

/-- … and at a drop_measurement of a measurement that does not exist -/
theorem witness_drop_noop : ∀ st ∈ opSteps witness_s true (.drop "net"), st.mutatesPrimary = false :=
  every_noop_write_leaves_the_file_alone witness_s witness_inv true (.drop "net") (Or.inr (Or.inl ⟨_, rfl⟩))
    trivial (by simp [MeasOK]) (Or.inl (by decide +kernel))

theorem witness_noop_concrete :
    (opSteps witness_s true witness_remove0).length = 3 ∧
    (opSteps witness_s true witness_removeScan0).length = 23 ∧
    (witness_s.step witness_removeScan0).2 = .nat 0 ∧
    (run witness_fs ((opSteps witness_s true witness_removeScan0).take 21)).temp = some [witness_p1, witness_p2, witness_p3] ∧
    (run witness_fs (opSteps witness_s true witness_removeScan0)).temp = none ∧
    (run witness_fs (opSteps witness_s true witness_removeScan0)).primary = [witness_p1, witness_p2, witness_p3] ∧
    (opSteps witness_s true witness_updateSame).length = 23 ∧
    (witness_s.step witness_updateSame).2 = .nat 0 ∧
    (witness_s.step witness_updateRaise).2 = .err .user ∧
    (opSteps witness_s true witness_updateRaise).length = 11 ∧
    (run witness_fs (opSteps witness_s true witness_updateRaise)).primary = [witness_p1, witness_p2, witness_p3] := by
  decide +kernel

/-- the hypothesis `hout` matters: it fails for the remove that removes a point -/
theorem witness_remove_is_not_noop :
    ¬ ((witness_s.step witness_remove).2 = .nat 0 ∨ ∃ e, (witness_s.step witness_remove).2 = .err e) := by
  have h : (witness_s.step witness_remove).2 = .nat 1 := by decide +kernel
  rw [h]
  simp

/-! ## temp files -/

/-- `every_operation_removes_its_temp_file` at the remove, the update, the insert and the count -/
theorem witness_remove_no_temp : (run witness_fs (opSteps witness_s true witness_remove)).temp = none :=
  every_operation_removes_its_temp_file witness_s witness_inv witness_remove witness_remove_ok.1 witness_remove_ok.2
    witness_fs witness_fileOf
theorem witness_update_no_temp : (run witness_fs (opSteps witness_s true witness_update)).temp = none :=
  every_operation_removes_its_temp_file witness_s witness_inv witness_update
    (witness_any_update_ok _ _ _).1 (witness_any_update_ok _ _ _).2
    witness_fs witness_fileOf
theorem witness_insert_no_temp : (run witness_fs (opSteps witness_s true witness_insert)).temp = none :=
  every_operation_removes_its_temp_file witness_s witness_inv witness_insert witness_insert_ok.1 witness_insert_ok.2
    witness_fs witness_fileOf
theorem witness_count_no_temp : (run witness_fs (opSteps witness_s true witness_count)).temp = none :=
  every_operation_removes_its_temp_file witness_s witness_inv witness_count witness_count_ok.1 witness_count_ok.2
    witness_fs witness_fileOf

/-- … where the temp file really existed on the way (after 15 of the 22 / 29 calls) -/
theorem witness_temp_existed :
    (opSteps witness_s true witness_remove).length = 22 ∧
    (run witness_fs ((opSteps witness_s true witness_remove).take 15)).temp = some [witness_p1, witness_p3] ∧
    (opSteps witness_s true witness_update).length = 29 ∧
    (run witness_fs ((opSteps witness_s true witness_update).take 15)).temp = some [witness_p1, witness_p2'] := by
  decide +kernel

/-! ## the table-level theorems speak about non-empty tables -/

example : 5 < (opSteps witness_s true witness_remove).length := by
  rw [witness_temp_existed.1]
  decide
example : decosOf "remove" ≠ [] ∧ mutating.length = 7 := by decide +kernel

end TinyFlux.Props.C15
