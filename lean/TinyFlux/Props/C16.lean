import TinyFlux.Model.IO
import TinyFlux.Lemmas.IOLemmas
/-!
# C16 — insert is append-only and its I/O cost does not depend on database size (partial)

`appendSteps flush rows` is the list of I/O calls `insert`/`insert_multiple` makes on the primary
handle (validated against recorded traces of the real code for database sizes 0 … 5000). It is a
function of the inserted rows only — not of the contents, the index or the handle position — and
contains no read. *Partial*: cost is counted in Python-level I/O calls, not in syscalls or time.
-/
namespace TinyFlux.Props.C16
open TinyFlux.Model.IO
variable {R : Type}

/-- five calls per inserted point (two without `flush_on_insert`), whatever is already stored -/
theorem insert_steps_count (rows : List R) :
    (appendSteps true rows).length = 5 * rows.length ∧ (appendSteps false rows).length = 2 * rows.length := by
  -- the calls are `appendRow` per row, of constant length
  constructor <;>
    simp [appendSteps_eq, List.length_flatMap, appendRow, List.map_const', List.sum_replicate_nat, Nat.mul_comm]

/-- no existing data is read, nothing is rewritten: the only mutating calls are writes of the new rows -/
theorem insert_reads_nothing (flush : Bool) (rows : List R) :
    ∀ s ∈ appendSteps flush rows, s.isRead = false ∧ (match s with | .pSeek0 | .replace | .tCreate => False | _ => True) := by
  intro s hs
  simp only [appendSteps, List.mem_flatMap] at hs
  obtain ⟨r, _, hs⟩ := hs
  cases flush <;> simp at hs
  · rcases hs with h | h <;> subst h <;> simp [Step.isRead]
  · rcases hs with h | h | h | h | h <;> subst h <;> simp [Step.isRead]

/-- the file afterwards is the previous content followed by the new rows — wherever a previous
    (early-terminating) read left the handle -/
theorem insert_is_append (fs : FS R) (hq : Quiet fs) (rows : List R) :
    (run fs (appendSteps true rows)).primary = fs.primary ++ rows ∧
    afterClose (run fs (appendSteps false rows)) = fs.primary ++ rows ∧
    Quiet (run fs (appendSteps true rows)) := by
  obtain ⟨h1, h2⟩ := append_flush_quiet fs hq rows
  refine ⟨h1, ?_, h2⟩
  rw [(append_afterClose fs false rows).2]
  simp [afterClose, hq.noPend]

/-- at every intermediate point the previous content is a prefix of the file -/
theorem insert_never_touches_old_rows (fs : FS R) (hq : Quiet fs) (flush : Bool) (rows : List R) (k : Nat) :
    fs.primary <+: (run fs ((appendSteps flush rows).take k)).primary := by
  have _ := hq  -- holds from any state: these steps only ever extend the file
  exact append_isPrefix fs flush rows k

end TinyFlux.Props.C16
