import TinyFlux.Lemmas.Bisect
import TinyFlux.Generated.Utils
/-!
# C18 — sorted-list search helpers return the documented boundary positions

The theorems are stated about the definitions that `tools/py2lean` regenerates from `tinyflux/utils.py`
on every run (`TinyFlux.Generated.find_*`), for **every** list sorted by `≤` (duplicates allowed, any
length) and every probe; the lemmas they rest on are in `Lemmas/Bisect.lean`.
-/
namespace TinyFlux.Props.C18
open TinyFlux.Py TinyFlux.Generated

/-- documented result of `find_eq`: leftmost position equal to the probe, or `None`. -/
def SpecEq (l : List Int) (x : Int) : V → Prop := First l (· = x)
/-- `find_lt`: rightmost position strictly below the probe, or `None`. -/
def SpecLt (l : List Int) (x : Int) : V → Prop := Last l (· < x)
/-- `find_le`: rightmost position not above the probe, or `None`. -/
def SpecLe (l : List Int) (x : Int) : V → Prop := Last l (· ≤ x)
/-- `find_gt`: leftmost position strictly above the probe, or `None`. -/
def SpecGt (l : List Int) (x : Int) : V → Prop := First l (x < ·)
/-- `find_ge`: leftmost position not below the probe, or `None`. -/
def SpecGe (l : List Int) (x : Int) : V → Prop := First l (x ≤ ·)

theorem find_lt_spec (l : List Int) (hs : l.Pairwise (· ≤ ·)) (x : Int) :
    ∃ r, find_lt (.list l) (.int x) = .ok r ∧ SpecLt l x r :=
  ⟨_, find_lt_eq l x, last_of_prefix (bisectLeft_le l x) fun _ hj => lt_bisectLeft_iff hs x hj⟩

theorem find_le_spec (l : List Int) (hs : l.Pairwise (· ≤ ·)) (x : Int) :
    ∃ r, find_le (.list l) (.int x) = .ok r ∧ SpecLe l x r :=
  ⟨_, find_le_eq l x, last_of_prefix (bisectRight_le l x) fun _ hj => lt_bisectRight_iff hs x hj⟩

theorem find_gt_spec (l : List Int) (hs : l.Pairwise (· ≤ ·)) (x : Int) :
    ∃ r, find_gt (.list l) (.int x) = .ok r ∧ SpecGt l x r :=
  ⟨_, find_gt_eq l x, first_of_suffix (bisectRight_le l x) fun _ hj => by
    rw [← Nat.not_lt, lt_bisectRight_iff hs x hj, Int.not_le]⟩

theorem find_ge_spec (l : List Int) (hs : l.Pairwise (· ≤ ·)) (x : Int) :
    ∃ r, find_ge (.list l) (.int x) = .ok r ∧ SpecGe l x r :=
  ⟨_, find_ge_eq l x, first_of_suffix (bisectLeft_le l x) fun _ hj => by
    rw [← Nat.not_lt, lt_bisectLeft_iff hs x hj, Int.not_lt]⟩

theorem find_eq_spec (l : List Int) (hs : l.Pairwise (· ≤ ·)) (x : Int) :
    ∃ r, find_eq (.list l) (.int x) = .ok r ∧ SpecEq l x r :=
  ⟨_, find_eq_eq l x, first_eq_at_bisectLeft hs x⟩

/-- None of the helpers raises on a sorted list of comparable values, and the five results are
    mutually consistent with the `bisect` insertion points (used by C01's time index). -/
theorem find_total (l : List Int) (hs : l.Pairwise (· ≤ ·)) (x : Int) :
    (∃ r, find_eq (.list l) (.int x) = .ok r) ∧ (∃ r, find_lt (.list l) (.int x) = .ok r) ∧
    (∃ r, find_le (.list l) (.int x) = .ok r) ∧ (∃ r, find_gt (.list l) (.int x) = .ok r) ∧
    (∃ r, find_ge (.list l) (.int x) = .ok r) :=
  ⟨(find_eq_spec l hs x).imp fun _ h => h.1, (find_lt_spec l hs x).imp fun _ h => h.1,
   (find_le_spec l hs x).imp fun _ h => h.1, (find_gt_spec l hs x).imp fun _ h => h.1,
   (find_ge_spec l hs x).imp fun _ h => h.1⟩

/-! Non-vacuity: a concrete sorted list with duplicates meets the hypotheses, and the generated
    functions compute the documented positions on it. -/
example : ([1, 2, 2, 5] : List Int).Pairwise (· ≤ ·) := by decide
example : find_eq (.list [1, 2, 2, 5]) (.int 2) = .ok (.int 1) := by rfl
example : find_lt (.list [1, 2, 2, 5]) (.int 2) = .ok (.int 0) := by rfl
example : find_le (.list [1, 2, 2, 5]) (.int 2) = .ok (.int 2) := by rfl
example : find_gt (.list [1, 2, 2, 5]) (.int 2) = .ok (.int 3) := by rfl
example : find_ge (.list [1, 2, 2, 5]) (.int 2) = .ok (.int 1) := by rfl
example : find_gt (.list [1, 2, 2, 5]) (.int 5) = .ok .none := by rfl

end TinyFlux.Props.C18
