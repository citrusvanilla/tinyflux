import TinyFlux.Props.C05
/-!
# C05 — non-vacuity witness

The codec is parametric in the `float` ⇄ text and `datetime` ⇄ ISO-text conversions (`FieldCodec`, `TimeCodec`) and
the theorems assume laws about them (`SentinelNotNumber`, and inside `Codable`: `fromIso (iso t) = some t`,
`parse (repr n) = some n`, `repr n` is not an integer literal). Here the parameters are instantiated with concrete
small tables — the texts Python produces for the values used — and the laws are proved for them; then a point with
awkward texts is shown to be `Codable`, and the round trip is computed cell by cell, in both prefix styles.
-/
namespace TinyFlux.Props.C05
open TinyFlux.Spec TinyFlux.Model.Codec TinyFlux.Generated

/-! ## concrete conversion tables -/

/-- `str(float(v))` / `float(s)` for the numbers used below (and nothing else: `float(s)` raises); the last entry is the
    integer 2⁵³ + 1, which `float` rounds to 2⁵³ -/
def witness_fc : FieldCodec :=
  { repr := fun n =>
      if n = .fin 3 then "3.0".toList else if n = .fin (5/2) then "2.5".toList
      else if n = .fin (-7) then "-7.0".toList else if n = .pinf then "inf".toList
      else if n = .fin 9007199254740993 then "9007199254740992.0".toList else "?".toList,
    parse := fun s =>
      if s = "3.0".toList then some (.fin 3) else if s = "2.5".toList then some (.fin (5/2))
      else if s = "-7.0".toList then some (.fin (-7)) else if s = "inf".toList then some .pinf
      else if s = "9007199254740992.0".toList then some (.fin 9007199254740992) else none }

/-- `isoformat()` / `fromisoformat()` for two instants -/
def witness_tc : TimeCodec :=
  { iso := fun t =>
      if t = 1700000000123456 then "2023-11-14T22:13:20.123456".toList
      else if t = 0 then "1970-01-01T00:00:00".toList else "?".toList,
    fromIso := fun s =>
      if s = "2023-11-14T22:13:20.123456".toList then some 1700000000123456
      else if s = "1970-01-01T00:00:00".toList then some 0 else none }

/-- what `Codable` and `counterexample_unrepresentable` ask of the text of a number — not empty, no integer literal
    (`3` is written `3.0`), no negative one (`-7` is written `-7.0`) — as a test that evaluation decides -/
def floatText (s : Str) : Bool := !s.isEmpty && !isDigits s && !(s.head? == some '-' && isDigits s.tail)

theorem floatText_spec {s : Str} (h : floatText s = true) :
    s ≠ [] ∧ isDigits s = false ∧ ¬ ∃ t, s = '-' :: t ∧ isDigits t = true := by
  simp only [floatText, Bool.and_eq_true, Bool.not_eq_eq_eq_not, Bool.not_true] at h
  refine ⟨fun e => by simp [e] at h, h.1.2, ?_⟩
  rintro ⟨t, rfl, hd⟩
  simp [hd] at h

/-- the field table, in one evaluation (which converts each of its string literals once): the sentinel is no number;
    every number the table knows is written as such a text, which parses back to the number; so is 2⁵³ + 1, but it
    parses back to 2⁵³ -/
theorem witness_fc_laws :
    witness_fc.parse noneS = none ∧
    (∀ n ∈ [Num.fin 3, .fin (5/2), .fin (-7), .pinf],
      witness_fc.parse (witness_fc.repr n) = some n ∧ floatText (witness_fc.repr n) = true) ∧
    witness_fc.parse (witness_fc.repr (.fin 9007199254740993)) = some (.fin 9007199254740992) ∧
    floatText (witness_fc.repr (.fin 9007199254740993)) = true := by
  decide +kernel

/-- the law the theorems assume of the field codec: `float("_none")` raises -/
theorem witness_sentinel : SentinelNotNumber witness_fc := witness_fc_laws.1

theorem witness_tc_laws : ∀ t ∈ [(1700000000123456 : Int), 0], witness_tc.fromIso (witness_tc.iso t) = some t := by
  decide +kernel

/-! ## a point with awkward texts -/

/-- a measurement with a comma and a space; a tag value with a comma, a double quote and a newline; a tag key that
    looks like a compact tag prefix, one that looks like a field prefix; a `None` tag value; an empty tag value; a tag
    value that is almost the sentinel; field keys starting with `t`, `t_`, `_tag_`; an integer, a non-integer, a
    negative, an infinite and a `None` field value -/
def witness_p : Point :=
  { time := 1700000000123456,
    meas := "cpu, load",
    tags := [("host", some "a,\"b\"\nc"), ("t_zone", none), ("_field_x", some ""), ("f_", some "_None")],
    fields := [("temp", some (.fin 3)), ("t_load", some (.fin (5/2))), ("_tag_neg", some (.fin (-7))),
               ("top", some .pinf), ("f", none)] }

/-- a second, different point -/
def witness_q : Point :=
  { time := 0, meas := "cpu, load", tags := [("host", none)], fields := [("temp", some (.fin (5/2)))] }

/-- `Codable` for these tables, from checks that evaluation decides: the instant and the field values are among
    those the tables know, the measurement is not empty, the keys are distinct, no tag value is the sentinel -/
theorem witness_codable_of {p : Point} :
    (p.time ∈ [(1700000000123456 : Int), 0] ∧ p.meas ≠ "" ∧ (p.tags.map (·.1)).Nodup ∧ (p.fields.map (·.1)).Nodup ∧
      (∀ kv ∈ p.tags, kv.2 ≠ some noneStr) ∧
      ∀ kv ∈ p.fields, ∀ n ∈ kv.2, n ∈ [Num.fin 3, .fin (5/2), .fin (-7), .pinf]) →
    Codable witness_fc witness_tc p
  | ⟨ht, hm, htk, hfk, htv, hfv⟩ =>
    { timeOk := witness_tc_laws _ ht, measOk := fun _ => hm, tagKeys := htk, fieldKeys := hfk, tagVals := htv,
      fieldVals := fun kv hkv n hn =>
        let ⟨h1, h2⟩ := witness_fc_laws.2.1 n (hfv kv hkv n hn)
        ⟨h1, floatText_spec h2⟩ }

/-- the guard of `row_roundtrip_partial` / `injective_partial` holds of the two points -/
theorem witness_codable : Codable witness_fc witness_tc witness_p := witness_codable_of (by decide +kernel)
theorem witness_codable_q : Codable witness_fc witness_tc witness_q := witness_codable_of (by decide +kernel)

/-! ## the theorems, instantiated -/

/-- `row_roundtrip_partial` in both prefix styles -/
theorem witness_roundtrip (compact : Bool) :
    deserialize witness_fc witness_tc (serialize witness_fc witness_tc compact witness_p) = some witness_p :=
  row_roundtrip_partial witness_fc witness_tc witness_sentinel compact witness_p witness_codable

/-- cells are compared as strings: the kernel is slow at turning a string literal into its character list, and
    `String.ofList` of a computed cell is cheap -/
theorem eq_map_toList {cells : List Str} {row : List String} (h : cells.map String.ofList = row) :
    cells = row.map String.toList := by
  rw [← h, List.map_map]
  simp

/-- both rows and what the decoder makes of them, in one evaluation, within which the kernel converts each string
    literal once -/
theorem witness_computed :
    ((serialize witness_fc witness_tc false witness_p).map String.ofList =
      ["2023-11-14T22:13:20.123456", "cpu, load",
       "_tag_host", "a,\"b\"\nc", "_tag_t_zone", "_none", "_tag__field_x", "", "_tag_f_", "_None",
       "_field_temp", "3.0", "_field_t_load", "2.5", "_field__tag_neg", "-7.0", "_field_top", "inf",
       "_field_f", "_none"] ∧
     (serialize witness_fc witness_tc true witness_p).map String.ofList =
      ["2023-11-14T22:13:20.123456", "cpu, load",
       "t_host", "a,\"b\"\nc", "t_t_zone", "_none", "t__field_x", "", "t_f_", "_None",
       "f_temp", "3.0", "f_t_load", "2.5", "f__tag_neg", "-7.0", "f_top", "inf", "f_f", "_none"]) ∧
    deserialize witness_fc witness_tc (serialize witness_fc witness_tc false witness_p) = some witness_p ∧
    deserialize witness_fc witness_tc (serialize witness_fc witness_tc true witness_p) = some witness_p := by
  decide +kernel

/-- the row that is written (default prefixes): 20 cells; the integer field is written `3.0`, `None` is written `_none` -/
theorem witness_row :
    serialize witness_fc witness_tc false witness_p =
      ["2023-11-14T22:13:20.123456", "cpu, load",
       "_tag_host", "a,\"b\"\nc", "_tag_t_zone", "_none", "_tag__field_x", "", "_tag_f_", "_None",
       "_field_temp", "3.0", "_field_t_load", "2.5", "_field__tag_neg", "-7.0", "_field_top", "inf",
       "_field_f", "_none"].map String.toList :=
  eq_map_toList witness_computed.1.1

/-- … and with compact prefixes, where the field key `t_load` becomes `f_t_load` and the tag key `f_` becomes `t_f_` -/
theorem witness_row_compact :
    serialize witness_fc witness_tc true witness_p =
      ["2023-11-14T22:13:20.123456", "cpu, load",
       "t_host", "a,\"b\"\nc", "t_t_zone", "_none", "t__field_x", "", "t_f_", "_None",
       "f_temp", "3.0", "f_t_load", "2.5", "f__tag_neg", "-7.0", "f_top", "inf", "f_f", "_none"].map String.toList :=
  eq_map_toList witness_computed.1.2

/-- the decoder, run on these 20 cells, gives back the point: computed, independently of the theorem -/
theorem witness_roundtrip_computed :
    deserialize witness_fc witness_tc (serialize witness_fc witness_tc false witness_p) = some witness_p ∧
    deserialize witness_fc witness_tc (serialize witness_fc witness_tc true witness_p) = some witness_p :=
  witness_computed.2

/-- `tags_stay_tags_fields_stay_fields` -/
theorem witness_tags_fields :
    ∃ q, deserialize witness_fc witness_tc (serialize witness_fc witness_tc true witness_p) = some q ∧
      q.tags = witness_p.tags ∧ q.fields = witness_p.fields :=
  tags_stay_tags_fields_stay_fields witness_fc witness_tc witness_sentinel true witness_p witness_codable

/-- `injective_partial`, contrapositive, at two distinct codable points and mixed styles: the rows differ -/
theorem witness_rows_differ :
    serialize witness_fc witness_tc false witness_p ≠ serialize witness_fc witness_tc true witness_q :=
  fun h => absurd (injective_partial witness_fc witness_tc witness_sentinel false true witness_p witness_q
    witness_codable witness_codable_q h) (by decide +kernel)

/-- `sniffing_sound` at the awkward keys -/
example := sniffing_sound true "t_load".toList
example := sniffing_sound false "_tag_neg".toList

/-- the guard is not always true: a tag whose value is the sentinel text is not `Codable`, and does not survive -/
theorem witness_not_codable :
    ¬ Codable witness_fc witness_tc { time := 0, meas := "m", tags := [("a", some "_none")], fields := [] } :=
  fun h => h.tagVals ("a", some "_none") (by simp) rfl

example := counterexample_none_sentinel witness_fc witness_tc (witness_tc_laws 0 (by simp))
example := empty_measurement_roundtrips witness_fc witness_tc (witness_tc_laws 0 (by simp))

/-- `counterexample_unrepresentable` at 2⁵³ + 1: its hypotheses are satisfiable too, and it comes back as 2⁵³ -/
theorem witness_unrepresentable :
    deserialize witness_fc witness_tc (serialize witness_fc witness_tc false
        { time := 0, meas := "m", tags := [], fields := [("f", some (.fin 9007199254740993))] })
      = some { time := 0, meas := "m", tags := [], fields := [("f", some (.fin 9007199254740992))] } :=
  counterexample_unrepresentable witness_fc witness_tc (witness_tc_laws 0 (by simp)) _ _ (by decide)
    witness_fc_laws.2.2.1 (floatText_spec witness_fc_laws.2.2.2)

end TinyFlux.Props.C05
