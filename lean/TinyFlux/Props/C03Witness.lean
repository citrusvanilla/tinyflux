import TinyFlux.Props.C03
import TinyFlux.Props.Witness.Database
/-!
# C03 — non-vacuity witnesses

The hypotheses of the theorems of `Props/C03.lean` (`Inv s`, `OpOK s.cfg (.update …)`, `m ≠ some ""`,
`Spec.update … = .ok …`, `upd u p = .ok p'`) are jointly satisfiable by concrete, non-trivial states and
updates, and the conclusions then say something concrete: every main theorem is instantiated at a
three-point database under a CSV configuration (automatic index, the real row round trip as `norm`) and a
memory configuration (no automatic index) with an update that changes a tag on two points of three, all
hypotheses discharged, and the resulting states and return values are computed (`decide +kernel`).
-/
namespace TinyFlux.Props.C03
open TinyFlux.Spec TinyFlux.Model

/-! ## the witness database of `Props/Witness/Database.lean` (the two configurations and the codec pair are
explained in `Props/Witness/Storable.lean`), under this property's names -/

def encQ (q : Rat) : Codec.Str :=
  (if q.num < 0 then 'm' else 'q') :: (List.replicate q.num.natAbs 'i' ++ '/' :: List.replicate q.den 'i')

def wfc : Codec.FieldCodec where
  repr
    | .ninf => ['n'] | .pinf => ['p'] | .fin q => encQ q
  parse
    | ['n'] => some .ninf
    | ['p'] => some .pinf
    | 'q' :: r => some (.fin (mkRat (r.takeWhile (· == 'i')).length ((r.dropWhile (· == 'i')).drop 1).length))
    | 'm' :: r => some (.fin (mkRat (-((r.takeWhile (· == 'i')).length : Int)) ((r.dropWhile (· == 'i')).drop 1).length))
    | _ => none

def wtc : Codec.TimeCodec where
  iso | .ofNat n => 'T' :: List.replicate n 'i' | .negSucc n => 'U' :: List.replicate n 'i'
  fromIso | 'T' :: r => some (Int.ofNat r.length) | 'U' :: r => some (Int.negSucc r.length) | _ => none

def csvNorm (p : Point) : Point :=
  match Codec.deserialize wfc wtc (Codec.serialize wfc wtc false p) with
  | some q => q
  | none => ⟨0, "", [], []⟩

def csvCfg : Cfg := { autoIndex := true, norm := csvNorm }
def memCfg : Cfg := { autoIndex := false, norm := id }

def p1 : Point := ⟨10, "m1", [("a", some "x"), ("b", none)], [("f", some (.fin 2))]⟩
def p2 : Point := ⟨20, "m1", [("a", some "y")], [("f", some (.fin 7)), ("g", none)]⟩
def p3 : Point := ⟨20, "m2", [("a", some "x")], [("f", some (.fin (5 / 2)))]⟩

def ops0 : List Op := [.insert [some p1, some p2] none, .insert [some p3] none]

def sCsv : State := (runM (init csvCfg) ops0).1
def sMem : State := (runM (init memCfg) ops0).1

/-! ## the hypotheses hold -/

/-- the copies above are the witness database; the evaluations below start from its CSV state in closed form
    (`rw [sCsv_eq, Witness.sCsv_val]`) -/
theorem csvCfg_eq : csvCfg = Witness.csvCfg := rfl
theorem sCsv_eq : sCsv = Witness.sCsv := congrArg (fun cfg => (runM (init cfg) ops0).1) csvCfg_eq
theorem sMem_eq : sMem = Witness.sMem := rfl

theorem witness_csv_norm_not_id : ¬ Good csvCfg ⟨10, "m1", [("a", some "_none")], []⟩ :=
  csvCfg_eq ▸ Witness.csv_norm_not_id

theorem witness_inv_csv : Inv sCsv := sCsv_eq ▸ Witness.inv_csv
theorem witness_inv_mem : Inv sMem := sMem_eq ▸ Witness.inv_mem

theorem witness_state_mem :
    sMem.storage = [p1, p2, p3] ∧ sMem.storage.length = 3 ∧ sMem.index.valid = false ∧
    sMem.cfg.autoIndex = false := sMem_eq ▸ Witness.state_mem
theorem witness_rep_csv : Represents sCsv.index sCsv.storage := sCsv_eq ▸ Witness.rep_csv

/-- the configurations of the two states, without running the histories again -/
theorem witness_cfg : sCsv.cfg = csvCfg ∧ sMem.cfg = memCfg :=
  ⟨(sCsv_eq ▸ Witness.cfg_csv).trans csvCfg_eq.symm, sMem_eq ▸ Witness.cfg_mem⟩

theorem mOK (s : String) (h : s ≠ "" := by decide) : (some s : Option String) ≠ some "" := Witness.mOK s h
theorem noneOK : (none : Option String) ≠ some "" := Witness.noneOK

/-! ## C03: the main theorems at these states -/

/-- an update that gives only `tags`, as a callable -/
def tagUpd (f : List (String × Option String) → Except Err (List (String × Option String))) : Upd :=
  { time := none, meas := none, tags := some f, fields := none, unsetTags := [], unsetFields := [] }

/-- `tag a == "x"`: matches `p1` and `p3` -/
def qX : Query := .tag "a" (.cmp .eq (.str "x"))
/-- `update(query, tags={"a": "z"})` -/
def uZ : Upd := tagUpd (fun _ => .ok [("a", some "z")])
/-- `update(query, tags={"a": "x"})`: leaves `p1` and `p3` as they are -/
def uX : Upd := tagUpd (fun _ => .ok [("a", some "x")])

def p1z : Point := ⟨10, "m1", [("a", some "z"), ("b", none)], [("f", some (.fin 2))]⟩
def p2z : Point := ⟨20, "m1", [("a", some "z")], [("f", some (.fin 7)), ("g", none)]⟩
def p2x : Point := ⟨20, "m1", [("a", some "x")], [("f", some (.fin 7)), ("g", none)]⟩
def p3z : Point := ⟨20, "m2", [("a", some "z")], [("f", some (.fin (5 / 2)))]⟩

/-- `OpOK`: whatever storable point these updates are applied to, the result is storable — both
    configurations (`Witness.opOK_update`: the callables never return the sentinel text) -/
theorem witness_opOK_uZ (cfg : Cfg) (hcfg : cfg = csvCfg ∨ cfg = memCfg) (all : Bool) (q : Query) (m : Option String) :
    OpOK cfg (.update all q uZ m) :=
  Witness.opOK_update cfg (csvCfg_eq ▸ hcfg) all q uZ m (by rintro _ ⟨⟩ _ _ _ ⟨⟩; decide)
theorem witness_opOK_uX (cfg : Cfg) (hcfg : cfg = csvCfg ∨ cfg = memCfg) (all : Bool) (q : Query) (m : Option String) :
    OpOK cfg (.update all q uX m) :=
  Witness.opOK_update cfg (csvCfg_eq ▸ hcfg) all q uX m (by rintro _ ⟨⟩ _ _ _ ⟨⟩; decide)
/-- … and `OpOK` is not vacuous: it is false of the update that writes the sentinel text into a tag
    (`p1` is storable, its update is not) -/
theorem witness_opOK_fails : ¬ OpOK csvCfg (.update false qX (tagUpd (fun _ => .ok [("a", some "_none")])) none) :=
  fun h =>
    ((csvCfg_eq ▸ Witness.good_csv_iff _).mp
      (h p1 ⟨10, "m1", [("a", some "_none"), ("b", none)], [("f", some (.fin 2))]⟩ (csvCfg_eq ▸ Witness.good_csv.1) rfl)).2
      ("a", some "_none") List.mem_cons_self rfl

/-! ### `update_refines` -/
example :
    (sCsv.step (.update false qX uZ none)).1.storage = (Spec.step sCsv.storage (.update false qX uZ none)).1 ∧
    (sCsv.step (.update false qX uZ none)).2 = (Spec.step sCsv.storage (.update false qX uZ none)).2 ∧
    Inv (sCsv.step (.update false qX uZ none)).1 :=
  update_refines sCsv witness_inv_csv false qX uZ none (witness_opOK_uZ _ (Or.inl witness_cfg.1) _ _ _) noneOK
example :
    (sMem.step (.update true qX uZ (some "m1"))).1.storage = (Spec.step sMem.storage (.update true qX uZ (some "m1"))).1 ∧
    (sMem.step (.update true qX uZ (some "m1"))).2 = (Spec.step sMem.storage (.update true qX uZ (some "m1"))).2 ∧
    Inv (sMem.step (.update true qX uZ (some "m1"))).1 :=
  update_refines sMem witness_inv_mem true qX uZ (some "m1") (witness_opOK_uZ _ (Or.inr witness_cfg.2) _ _ _) (mOK "m1")
/-- two points of three change, in place; `update_all` through measurement `m1` changes `p1` and `p2`;
    an update that leaves the selected points equal reports 0 and one that changes one of three selected
    reports 1; the indexed state has a valid (rebuilt) index afterwards -/
theorem witness_update_value :
    (sCsv.step (.update false qX uZ none)).1.storage = [p1z, p2, p3z] ∧
    (sCsv.step (.update false qX uZ none)).2 = .nat 2 ∧
    (sCsv.step (.update false qX uZ none)).1.index.valid = true ∧
    (sCsv.step (.update false qX uZ none)).1.index.numItems = 3 ∧
    (Spec.step sCsv.storage (.update false qX uZ none)).1 = [p1z, p2, p3z] ∧
    (sMem.step (.update false qX uZ none)).1.storage = [p1z, p2, p3z] ∧
    (sMem.step (.update false qX uZ none)).2 = .nat 2 ∧
    (sMem.step (.update true qX uZ (some "m1"))).1.storage = [p1z, p2z, p3] ∧
    (sMem.step (.update true qX uZ (some "m1"))).2 = .nat 2 ∧
    (sCsv.step (.update true qX uZ (some "m1"))).1.storage = [p1z, p2z, p3] ∧
    (sCsv.step (.update false qX uX none)).1.storage = [p1, p2, p3] ∧
    (sCsv.step (.update false qX uX none)).2 = .nat 0 ∧
    (sCsv.step (.update true qX uX none)).1.storage = [p1, p2x, p3] ∧
    (sCsv.step (.update true qX uX none)).2 = .nat 1 := by
  rw [sCsv_eq, Witness.sCsv_val]
  decide +kernel
/-- the read that follows sees the new tag values (index path) -/
theorem witness_read_after_update_value :
    ((sCsv.step (.update false qX uZ none)).1.step (.count (.tag "a" (.cmp .eq (.str "z"))) none)).2 = .nat 2 ∧
    ((sCsv.step (.update false qX uZ none)).1.step (.count qX none)).2 = .nat 0 := by
  rw [sCsv_eq, Witness.sCsv_val]
  decide +kernel

/-! ### `order_untouched`, `selected_updated`, `update_count` (Spec level) -/
theorem witness_spec_update : Spec.update [p1, p2, p3] uZ qX none = .ok ([p1z, p2, p3z], 2) := by rfl

example :
    [p1z, p2, p3z].length = [p1, p2, p3].length ∧
    ∀ i (_ : i < [p1, p2, p3].length) (_ : i < [p1z, p2, p3z].length),
      selected qX none [p1, p2, p3][i] = false → [p1z, p2, p3z][i] = [p1, p2, p3][i] :=
  order_untouched [p1, p2, p3] [p1z, p2, p3z] uZ qX none 2 witness_spec_update
/-- at position 1 (`p2`, not selected) this says the point is untouched -/
example : [p1z, p2, p3z][1] = [p1, p2, p3][1] :=
  (order_untouched [p1, p2, p3] [p1z, p2, p3z] uZ qX none 2 witness_spec_update).2 1 (by decide) (by decide)
    (by decide +kernel)
example :
    ∀ i (_ : i < [p1, p2, p3].length) (_ : i < [p1z, p2, p3z].length), selected qX none [p1, p2, p3][i] = true →
      ∃ p', upd uZ [p1, p2, p3][i] = .ok p' ∧
        [p1z, p2, p3z][i] = (if p'.eqv [p1, p2, p3][i] then [p1, p2, p3][i] else p') :=
  selected_updated [p1, p2, p3] [p1z, p2, p3z] uZ qX none 2 witness_spec_update
/-- at position 2 (`p3`, selected) this gives the updated point -/
example : ∃ p', upd uZ p3 = .ok p' ∧ p3z = (if p'.eqv p3 then p3 else p') :=
  selected_updated [p1, p2, p3] [p1z, p2, p3z] uZ qX none 2 witness_spec_update 2 (by decide) (by decide)
    (by decide +kernel)
theorem witness_upd_value : upd uZ p3 = .ok p3z ∧ p3z.eqv p3 = false ∧ upd uX p3 = .ok p3 :=
  ⟨by rfl, by decide +kernel, by rfl⟩
example : 2 = ((List.zip [p1, p2, p3] [p1z, p2, p3z]).filter (fun pp => !(pp.1.eqv pp.2))).length :=
  update_count [p1, p2, p3] [p1z, p2, p3z] uZ qX none 2 witness_spec_update

/-! ### `never_drops_keys`, `merge_values`, `unset_after_set`, `update_all_is_update_noop` -/
example : "b" ∈ (dictUpdate p1.tags [("a", some "z"), ("c", none)]).map (·.1) :=
  never_drops_keys p1.tags [("a", some "z"), ("c", none)] "b" (by decide)
example :
    (dictUpdate p2.fields [("g", some (.fin 1)), ("h", none)]).lookup "g" =
      (match ([("g", some (.fin 1)), ("h", none)] : List (String × Option Num)).lookup "g" with
       | some v => some v | none => p2.fields.lookup "g") :=
  merge_values p2.fields [("g", some (.fin 1)), ("h", none)] (by decide) "g"
theorem witness_merge_value :
    dictUpdate p2.fields [("g", some (.fin 1)), ("h", none)] =
      [("f", some (.fin 7)), ("g", some (.fin 1)), ("h", none)] := by decide +kernel

/-- `update(tags={"c": "w"}, unset_tags=["c", "b"])` -/
def uU : Upd :=
  { time := none, meas := none, tags := some (fun _ => .ok [("c", some "w")]), fields := none,
    unsetTags := ["c", "b"], unsetFields := ["zz"] }
theorem witness_upd_unset : upd uU p1 = .ok ⟨10, "m1", [("a", some "x")], [("f", some (.fin 2))]⟩ := by rfl
example :
    (∀ k ∈ ["c", "b"], (⟨10, "m1", [("a", some "x")], [("f", some (.fin 2))]⟩ : Point).tags.lookup k = none) ∧
    (∀ k ∈ ["zz"], (⟨10, "m1", [("a", some "x")], [("f", some (.fin 2))]⟩ : Point).fields.lookup k = none) :=
  unset_after_set uU p1 _ witness_upd_unset

example : Spec.step sCsv.storage (.update true qX uZ (some "m1")) = Spec.step sCsv.storage (.update false .noop uZ (some "m1")) :=
  update_all_is_update_noop sCsv.storage qX uZ (some "m1")

end TinyFlux.Props.C03
