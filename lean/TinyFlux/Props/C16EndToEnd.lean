import TinyFlux.Lemmas.IOOps
import TinyFlux.Props.C16
/-! # C16, end to end (database model ⋈ I/O model; `opSteps`: see `C04EndToEnd.lean`) -/
namespace TinyFlux.Props.C16
open TinyFlux.Model TinyFlux.Model.IO TinyFlux.Spec

/-- the I/O calls of an insert are the same in any two states with the same configuration — whatever is
    stored, whatever the index holds, valid or not —, five (two) per stored point, none a read; and the contents
    afterwards are the old contents followed by exactly the rows those calls write -/
theorem insert_cost_independent_of_database (s₁ s₂ : State) (h : s₁.cfg = s₂.cfg) (flush : Bool)
    (pts : List (Option Point)) (m : Option String) :
    opSteps s₁ flush (.insert pts m) = opSteps s₂ flush (.insert pts m) ∧
    (opSteps s₁ flush (.insert pts m)).length = (if flush then 5 else 2) * (insertedRows s₁.cfg m pts).length ∧
    (∀ st ∈ opSteps s₁ flush (.insert pts m), st.isRead = false) ∧
    (s₁.step (.insert pts m)).1.storage = s₁.storage ++ insertedRows s₁.cfg m pts := by
  refine ⟨by simp only [opSteps, h], ?_, fun st hst => (insert_reads_nothing flush _ st hst).1,
    IOOpsAux.step_insert_storage s₁ pts m⟩
  obtain ⟨a, b⟩ := insert_steps_count (insertedRows s₁.cfg m pts)
  cases flush
  · simpa [opSteps] using b
  · simpa [opSteps] using a

end TinyFlux.Props.C16
