import TinyFlux.Generated.IndexTables
import TinyFlux.Lemmas.Refinement
/-!
# C06 — a valid index is always equivalent to one rebuilt from storage

`Represents idx l` says the index is exactly the index of `l` (posting lists, parallel time arrays,
counts). `inv_reachable` shows every state reachable by any history — including operations that
raise — has a valid index only if it represents the current storage; `Index.build` also represents
it (L1, `represents_build`), and every answer is a function of what is represented (L2: `search_exact` and the `*_spec` of
`Lemmas/Getters.lean`), so the answers coincide.
-/
namespace TinyFlux.Props.C06
open TinyFlux.Spec TinyFlux.Model

/-- every reachable state: a valid index represents the current storage -/
theorem inv_reachable (cfg : Cfg) (ops : List Op) (hok : OpsOK cfg ops) :
    Inv (runM (init cfg) ops).1 :=
  (reachable cfg ops hok).1

/-- … also across closing and reopening the database -/
theorem inv_reopen (s : State) (hs : Inv s) : Inv (reopen s) := by
  unfold reopen
  cases hl : s.storage with
  | nil =>
    simp only [List.isEmpty_nil, Bool.not_true, Bool.and_false, Bool.false_eq_true, if_false]
    exact ⟨by simp, fun _ => Writes.represents_empty⟩
  | cons x t =>
    cases ha : s.cfg.autoIndex
    · simp only [List.isEmpty_cons, Bool.false_and, Bool.false_eq_true, if_false]
      exact ⟨by simpa [hl] using hs.good, by simp⟩
    · simp only [List.isEmpty_cons, Bool.not_false, Bool.and_true, if_true]
      exact ⟨by simpa [hl] using hs.good,
        fun _ => represents_build _ fun p hp => (hs.good p (by rw [hl]; exact hp)).1⟩

/-- a freshly built index represents the storage it was built from -/
theorem build_represents (l : List Point) (hwf : ∀ p ∈ l, WFPoint p) : Represents (Index.build l) l :=
  represents_build l hwf

/-- the form in which every `*_spec` of the index determines its answer -/
theorem perm_of_spec {α} {P : α → Prop} {a b : List α} (ha : a.Nodup ∧ ∀ x, x ∈ a ↔ P x)
    (hb : b.Nodup ∧ ∀ x, x ∈ b ↔ P x) : a.Perm b :=
  (List.perm_ext_iff_of_nodup ha.1 hb.1).2 fun x => (ha.2 x).trans (hb.2 x).symm

/-- any two indexes that represent the same storage give the same answer to every exact query
    (same set of positions, each once) … -/
theorem search_answers_eq (i j : Index) (l : List Point) (hi : Represents i l) (hj : Represents j l)
    (hwf : ∀ p ∈ l, WFPoint p) (q : Query) (hq : exact q = true) :
    ∃ r r', i.search q = .ok r ∧ j.search q = .ok r' ∧ r.Perm r' := by
  obtain ⟨r, h1, h2⟩ := search_exact i l hi hwf q hq
  obtain ⟨r', h1', h2'⟩ := search_exact j l hj hwf q hq
  exact ⟨r, r', h1, h1', perm_of_spec h2 h2'⟩

/-- … and the same counts, keys, values, timestamps and lengths (`get_tag_values` is not among them: its dict is
    determined by the stored points only up to the order of keys and of values, `TVSpec`) -/
theorem getter_answers_eq (i j : Index) (l : List Point) (hi : Represents i l) (hj : Represents j l)
    (hwf : ∀ p ∈ l, WFPoint p) (k : String) (m : Option String) :
    i.numItems = j.numItems ∧
    i.getMeasurements.Perm j.getMeasurements ∧
    (i.getTagKeys m).Perm (j.getTagKeys m) ∧
    (i.getFieldKeys m).Perm (j.getFieldKeys m) ∧
    i.getFieldValues k m = j.getFieldValues k m ∧
    i.getTimestamps m = j.getTimestamps m ∧
    (∀ name, (i.measItems name).length = (j.measItems name).length) := by
  have _ := hwf  -- not needed: the getter specs hold of any represented index
  refine ⟨hi.num.trans hj.num.symm,
    perm_of_spec (getMeasurements_spec i l hi) (getMeasurements_spec j l hj),
    perm_of_spec (getTagKeys_spec i l hi m) (getTagKeys_spec j l hj m),
    perm_of_spec (getFieldKeys_spec i l hi m) (getFieldKeys_spec j l hj m), ?_, ?_, fun name => ?_⟩
  · rw [getFieldValues_spec i l hi, getFieldValues_spec j l hj]
  · rw [getTimestamps_spec i l hi, getTimestamps_spec j l hj]
  · rw [(measItems_spec i l hi name).1, (measItems_spec j l hj name).1]

/-- in particular: whenever the index of a reachable state is valid, its answers are those of a rebuild -/
theorem answers_eq_rebuild (s : State) (hs : Inv s) (hv : s.index.valid = true) (q : Query) (hq : exact q = true) :
    ∃ r r', s.index.search q = .ok r ∧ (Index.build s.storage).search q = .ok r' ∧ r.Perm r' := by
  have hwf := Inv.wfPoint hs
  exact search_answers_eq _ _ s.storage (hs.rep hv) (build_represents _ hwf) hwf q hq

/-- with automatic indexing, inserting in non-decreasing time order keeps the index valid -/
theorem inorder_insert_keeps_valid (s : State) (hs : Inv s) (hv : s.index.valid = true) (ha : s.cfg.autoIndex = true)
    (p : Point) (m : Option String) (hok : OpOK s.cfg (.insert [some p] m))
    (hord : ∀ q ∈ s.storage, q.time ≤ p.time) :
    (s.step (.insert [some p] m)).1.index.valid = true := by
  have _ := hok  -- not needed: whether the index stays valid depends on the time order only, not on `p` being storable
  rw [Writes.insert_single s ha]
  exact (Writes.insertStep_valid_iff s hs hv ha _).mpr fun q hq =>
    (Writes.setMeas_time (effMeas m) p).symm ▸ hord q hq

/-- an out-of-order insert only appends to storage and invalidates the index -/
theorem out_of_order_only_invalidates (s : State) (hs : Inv s) (hv : s.index.valid = true)
    (ha : s.cfg.autoIndex = true) (p : Point) (hok : OpOK s.cfg (.insert [some p] none))
    (hord : ∃ q ∈ s.storage, p.time < q.time) :
    (s.step (.insert [some p] none)).1.index.valid = false ∧
    (s.step (.insert [some p] none)).1.storage = s.storage ++ [p] := by
  rw [Writes.insert_single s ha]
  have hp : Good s.cfg p := hok p (by simp)
  have hset : setMeas (effMeas none) p = p := rfl
  rw [hset, Writes.insertStep_storage, hp.2]
  refine ⟨?_, rfl⟩
  obtain ⟨q, hq, hlt⟩ := hord
  rw [← Bool.not_eq_true]
  exact fun hvd => absurd hlt (Int.not_lt.mpr ((Writes.insertStep_valid_iff s hs hv ha p).mp hvd q hq))

/-- with automatic indexing, any read leaves the index valid (and never touches a valid one) -/
theorem read_leaves_valid (s : State) (hs : Inv s) (ha : s.cfg.autoIndex = true) :
    s.readOp.index.valid = true ∧ (s.index.valid = true → s.readOp = s) :=
  ⟨(readOp_spec s hs).2 ha, readOp_of_valid s⟩

theorem read_op_keeps_valid_index (s : State) (hs : Inv s) (op : Op) (hr : isRead op = true) (hm : MeasOK op)
    (hv : s.index.valid = true) : (s.step op).1.index = s.index :=
  (step_read_refines s hs op hr hm).2.2.2.2 hv

/-- (T) over the attribute lists regenerated from `index.py`: `_reset` assigns every attribute that
    `__init__` creates (the position array included — the pinned commit forgot it), to the empty value,
    and sets `_valid`; `invalidate` is `_reset` followed by `_valid = False` -/
theorem reset_clears_every_attribute :
    (Generated.indexInitAttrs.map (·.1)).all (fun a => (Generated.indexResetAttrs.map (·.1)).contains a) = true ∧
    Generated.indexResetAttrs.all (fun av => av.2 == "0" || av.2 == "{}" || av.2 == "[]" || av == ("_valid", "True")) = true ∧
    Generated.indexInvalidateBody = ["self._reset()", "self._valid = False"] := by
  refine ⟨by decide +kernel, by decide +kernel, rfl⟩

end TinyFlux.Props.C06
