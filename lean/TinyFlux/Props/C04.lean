import TinyFlux.Model.IO
import TinyFlux.Lemmas.IOLemmas
/-!
# C04 — after every completed operation the CSV file alone holds the current contents

Protocol level: after the complete step list of an operation the rows the OS holds for the database
path are exactly the new contents (with `flush_on_insert=False`: once the handle is closed), the temp
file is gone and nothing is left buffered. Rows are abstract; that a row decodes to the point it was
written from is C05, that the temp file is written with the primary's encoding / newline mode / csv
options is checked on the recorded `mktemp`/`open` arguments and by decoding the real file with an
independent reader after every operation in every configuration.
-/
namespace TinyFlux.Props.C04
open TinyFlux.Model.IO
variable {R : Type}

theorem append_file_holds_contents (fs : FS R) (hq : Quiet fs) (rows : List R) :
    (run fs (appendSteps true rows)).primary = fs.primary ++ rows ∧ Quiet (run fs (appendSteps true rows)) := by
  exact append_flush_quiet fs hq rows

/-- without `flush_on_insert` the rows reach the file at the latest when the handle is closed, and
    already when the next read seeks -/
theorem append_unflushed_reaches_file (fs : FS R) (hq : Quiet fs) (rows : List R) :
    (run fs (appendSteps false rows ++ [.pClose])).primary = fs.primary ++ rows ∧
    (run fs (appendSteps false rows ++ scanSteps)).primary = fs.primary ++ rows := by
  have h := (append_afterClose fs false rows).2
  simp only [afterClose, hq.noPend, List.append_nil] at h
  constructor <;> rw [run_append] <;> simp [scanSteps, exec, h]

/-- an append lands at the end of the file wherever an early-terminating read left the handle -/
theorem append_lands_at_eof (fs : FS R) (hq : Quiet fs) (rows : List R) (pos : Bool) :
    (run { fs with posEnd := pos } (appendSteps true rows)).primary = fs.primary ++ rows := by
  exact (append_flush { fs with posEnd := pos } hq.noPend rows).2.1

/-- a rewrite (remove / update) leaves exactly the new rows, in both flush modes (also when appended rows
    were still buffered in the primary handle), and no temp file -/
theorem rewrite_file_holds_contents (fs : FS R) (hq : fs.temp = none ∧ fs.pendT = []) (flush : Bool) (rows : List (Option R)) (rebuild : Bool) :
    (run fs (rewriteSteps flush rows rebuild)).primary = newRows rows ∧ Quiet (run fs (rewriteSteps flush rows rebuild)) ∧
    (run fs (rewriteSteps flush rows rebuild)).pOpen = true := by
  have _ := hq  -- holds from any state: `tCreate` resets the temp file and its buffer
  exact rewrite_full fs flush rows rebuild

theorem noop_rewrite_file_unchanged (fs : FS R) (hq : Quiet fs) (flush : Bool) (rows : List (Option R)) (scanned : Bool) :
    (run fs (noopRewriteSteps flush rows scanned)).primary = fs.primary ∧ Quiet (run fs (noopRewriteSteps flush rows scanned)) := by
  exact (atomic_noop _ _ (scannedPart_safe flush rows scanned) fs rfl hq).1

theorem reset_file_empty (fs : FS R) (hq : Quiet fs) (flush : Bool) (rows : List (Option R)) (scanned : Bool) :
    (run fs (resetSteps (R := R))).primary = [] ∧ (run fs (resetInTempSteps flush rows scanned)).primary = [] ∧
    Quiet (run fs (resetInTempSteps flush rows scanned)) := by
  have _ := hq  -- holds from any state
  exact ⟨by simp [resetSteps, exec], resetInTemp_full fs flush rows scanned⟩

/-- the pinned commit's defect, as a theorem about the model: without the flush before the swap, rows
    staged with `flush_on_insert=False` are lost -/
theorem swap_without_flush_loses_rows :
    ∃ (fs : FS Nat), Quiet fs ∧
      (run fs ([.tCreate, .pSeek0, .pRead, .tSeekEnd, .tWrite 7, .pRead] ++ [.pClose, .replace, .pOpen, .tClose])).primary ≠ [7] := by
  refine ⟨{ primary := [7] }, ⟨rfl, rfl, rfl⟩, ?_⟩
  simp [exec]

end TinyFlux.Props.C04
