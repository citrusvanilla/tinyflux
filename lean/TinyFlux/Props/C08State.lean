import TinyFlux.Footprint.TinyFlux
import TinyFlux.Footprint.Index
import TinyFlux.Footprint.Point
import TinyFlux.Generated.CallGraph
import TinyFlux.Model.CallGraph

/-! # C08: the state the code keeps is the state the Model has (database, index, point)

Over `Generated/Footprint.lean` (regenerated from the source on every run). A cache, a memo table or a flag added
to one of these classes or modules is state no theorem of this property covers: these stop checking. -/
namespace TinyFlux.Props.C08
open TinyFlux

/-- every attribute these classes assign is a component of the Model's state (`Model/Footprint.lean` says which) -/
theorem state_is_the_models_state :
    Generated.classState.lookup "database.TinyFlux" = some Model.Footprint.tinyFlux ∧
    Generated.classState.lookup "index.Index" = some Model.Footprint.index ∧
    Generated.classState.lookup "point.Point" = some Model.Footprint.point :=
  ⟨Footprint.tinyFlux, Footprint.index, Footprint.point⟩

/-- no module-level variable, caching decorator, `global`/`nonlocal` or mutable default argument beyond the
    modelled ones; no class the Model does not know -/
theorem no_hidden_state :
    Generated.moduleState.lookup "database" = Model.Footprint.modules.lookup "database" ∧
    Generated.moduleState.lookup "index" = Model.Footprint.modules.lookup "index" ∧
    Generated.moduleState.lookup "point" = Model.Footprint.modules.lookup "point" ∧
    Generated.classState.map (·.1) = Model.Footprint.classNames := ⟨rfl, rfl, rfl, rfl⟩

/-- every function of these classes / modules calls, catches and raises exactly what it did when the Model was
    written against it and validated (`Model/CallGraph.lean`); and there is no table the Model does not know -/
theorem code_uses_the_modelled_primitives :
    Generated.calls_database_TinyFlux = Model.CallGraph.calls_database_TinyFlux ∧
    Generated.calls_database_toplevel = Model.CallGraph.calls_database_toplevel ∧
    Generated.calls_index_Index = Model.CallGraph.calls_index_Index ∧
    Generated.calls_index_IndexResult = Model.CallGraph.calls_index_IndexResult ∧
    Generated.calls_index_toplevel = Model.CallGraph.calls_index_toplevel ∧
    Generated.calls_point_Point = Model.CallGraph.calls_point_Point ∧
    Generated.calls_point_toplevel = Model.CallGraph.calls_point_toplevel ∧
    Generated.calls_queries_CompoundQuery = Model.CallGraph.calls_queries_CompoundQuery ∧
    Generated.calls_queries_SimpleQuery = Model.CallGraph.calls_queries_SimpleQuery ∧
    Generated.calls_queries_BaseQuery = Model.CallGraph.calls_queries_BaseQuery ∧
    Generated.calls_queries_TagQuery = Model.CallGraph.calls_queries_TagQuery ∧
    Generated.calls_queries_FieldQuery = Model.CallGraph.calls_queries_FieldQuery ∧
    Generated.calls_queries_MeasurementQuery = Model.CallGraph.calls_queries_MeasurementQuery ∧
    Generated.calls_queries_TimeQuery = Model.CallGraph.calls_queries_TimeQuery ∧
    Generated.calls_queries_toplevel = Model.CallGraph.calls_queries_toplevel ∧
    Generated.callGraphTables = Model.CallGraph.callGraphTables := ⟨rfl, rfl, rfl, rfl, rfl, rfl, rfl, rfl, rfl, rfl, rfl, rfl, rfl, rfl, rfl, rfl⟩

end TinyFlux.Props.C08
