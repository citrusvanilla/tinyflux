import TinyFlux.Props.C12
import TinyFlux.Props.C12EndToEnd
import TinyFlux.Props.Witness.File
/-!
# C12 — non-vacuity witness

The hypotheses of `every_operation_is_crash_atomic` are jointly satisfied by a CSV database with auto-indexing
holding three points, the file that goes with it, and concrete operations; the crash point `k` is taken in the
middle of a rewrite (temp file half written), just after the atomic replace, and in the middle of an insert, so
that each of the three disjuncts of the conclusion is realised by a concrete instance.
The definitions below are the instance of `Props/Witness/File.lean` under this property's names; that `Inv`, `FileOf`,
`OpOK` and `MeasOK` hold of it is proved there.
-/
namespace TinyFlux.Props.C12
open TinyFlux.Model TinyFlux.Model.IO TinyFlux.Spec

/-! ## the concrete instance -/

/-- file-backed storage with `norm := id` (why: `Witness.File.cfg`), auto-indexing on -/
def witness_cfg : Cfg := { autoIndex := true, norm := id }

def witness_p1 : Point :=
  { time := 1000000, meas := "cpu", tags := [("host", some "a")], fields := [("load", some (.fin 1))] }
def witness_p2 : Point :=
  { time := 2000000, meas := "cpu", tags := [("host", some "b")], fields := [("load", some (.fin (5/2)))] }
def witness_p3 : Point :=
  { time := 3000000, meas := "mem", tags := [("host", some "a"), ("dc", none)], fields := [("free", none)] }
def witness_p4 : Point :=
  { time := 4000000, meas := "cpu", tags := [("host", some "c")], fields := [("load", some (.fin 3))] }
def witness_p5 : Point :=
  { time := 1500000, meas := "disk", tags := [], fields := [("used", some (.fin (-7)))] }
/-- `witness_p2` after the update below -/
def witness_p2' : Point :=
  { time := 2000000, meas := "cpu", tags := [("host", some "b")], fields := [("load", some (.fin 7))] }

def witness_history : List Op := [.insert [some witness_p1, some witness_p2] none, .insert [some witness_p3] none]

def witness_s : State := (runM (init witness_cfg) witness_history).1

/-- the file that goes with it: the three rows, nothing buffered, no temp file, handle open at the end -/
def witness_fs : FS Point := { primary := [witness_p1, witness_p2, witness_p3] }

/-- `db.remove(TagQuery().host == "b")`: removes the second of the three points -/
def witness_remove : Op := .remove (.tag "host" (.cmp .eq (.str "b"))) none
/-- the updater `fields={"load": v}` -/
def witness_setLoad (v : Option Num) : Upd :=
  { time := none, meas := none, tags := none, fields := some (fun _ => .ok [("load", v)]),
    unsetTags := [], unsetFields := [] }
/-- `db.update(TagQuery().host == "b", fields={"load": 7})`: changes the second point -/
def witness_update : Op := .update false (.tag "host" (.cmp .eq (.str "b"))) (witness_setLoad (some (.fin 7))) none
/-- `db.insert_multiple([p4, p5])` (the second one out of time order) -/
def witness_insert : Op := .insert [some witness_p4, some witness_p5] none
/-- `db.count(MeasurementQuery() == "cpu")` -/
def witness_count : Op := .count (.meas (.cmp .eq (.str "cpu"))) none
/-- a remove that matches nothing -/
def witness_remove0 : Op := .remove (.tag "host" (.cmp .eq (.str "zzz"))) none

/-! ## the hypotheses hold: taken over from `Witness.File` -/

theorem witness_s_eq : witness_s = Witness.File.s := rfl

theorem witness_inv : Inv witness_s := Witness.File.inv
theorem witness_fileOf : FileOf witness_s witness_fs := Witness.File.fileOf

theorem witness_storage : witness_s.storage = [witness_p1, witness_p2, witness_p3] := witness_s_eq ▸ Witness.File.storage
theorem witness_index_valid : witness_s.index.valid = true := witness_s_eq ▸ Witness.File.index_valid
theorem witness_index_nontrivial : witness_s.index.numItems = 3 ∧ witness_s.index.ts = [1000000, 2000000, 3000000] :=
  witness_s_eq ▸ Witness.File.index_nontrivial

theorem witness_remove_ok : OpOK witness_s.cfg witness_remove ∧ MeasOK witness_remove :=
  witness_s_eq ▸ Witness.File.remove_ok
theorem witness_update_ok : OpOK witness_s.cfg witness_update ∧ MeasOK witness_update :=
  witness_s_eq ▸ Witness.File.update_ok
theorem witness_insert_ok : OpOK witness_s.cfg witness_insert ∧ MeasOK witness_insert :=
  witness_s_eq ▸ Witness.File.insert_ok
theorem witness_count_ok : OpOK witness_s.cfg witness_count ∧ MeasOK witness_count :=
  witness_s_eq ▸ Witness.File.count_ok

/-! ## the theorem, instantiated -/

/-- the 22 calls of the remove; what each is, by index, is listed at `Witness.File.remove_steps` -/
theorem witness_remove_steps : (opSteps witness_s true witness_remove).length = 22 :=
  witness_s_eq ▸ Witness.File.remove_steps

example : 5 < (opSteps witness_s true witness_remove).length := by
  rw [witness_remove_steps]
  decide

/-- a crash after 12 of the 22 calls of the remove: in the middle of the rewrite -/
theorem witness_remove_crash_mid :
    afterCrash (run witness_fs ((opSteps witness_s true witness_remove).take 12)) = witness_s.storage ∨
    afterCrash (run witness_fs ((opSteps witness_s true witness_remove).take 12)) = (witness_s.step witness_remove).1.storage ∨
    ∃ pts m j, witness_remove = .insert pts m ∧
      afterCrash (run witness_fs ((opSteps witness_s true witness_remove).take 12)) =
        witness_s.storage ++ (insertedRows witness_s.cfg m pts).take j :=
  every_operation_is_crash_atomic witness_s witness_inv witness_remove witness_remove_ok.1 witness_remove_ok.2
    witness_fs witness_fileOf 12

/-- … at that moment the temp file exists and holds one row, a second one is still in its buffer, and the database
    file holds the old three rows (first disjunct) -/
theorem witness_remove_crash_mid_concrete :
    (run witness_fs ((opSteps witness_s true witness_remove).take 12)).temp = some [witness_p1] ∧
    (run witness_fs ((opSteps witness_s true witness_remove).take 12)).pendT = [witness_p3] ∧
    afterCrash (run witness_fs ((opSteps witness_s true witness_remove).take 12)) = [witness_p1, witness_p2, witness_p3] := by
  decide +kernel

/-- a crash just before (19 calls) and just after (20 calls) the `os.replace`: the old, then the new contents (second
    disjunct); and old ≠ new -/
theorem witness_remove_crash_late :
    afterCrash (run witness_fs ((opSteps witness_s true witness_remove).take 19)) = [witness_p1, witness_p2, witness_p3] ∧
    afterCrash (run witness_fs ((opSteps witness_s true witness_remove).take 20)) = [witness_p1, witness_p3] ∧
    (witness_s.step witness_remove).1.storage = [witness_p1, witness_p3] ∧
    witness_s.storage ≠ (witness_s.step witness_remove).1.storage := by
  decide +kernel

/-- the update, crashed after 15 of its 29 calls -/
theorem witness_update_crash :
    let after := afterCrash (run witness_fs ((opSteps witness_s true witness_update).take 15))
    after = witness_s.storage ∨ after = (witness_s.step witness_update).1.storage ∨
    ∃ pts m j, witness_update = .insert pts m ∧ after = witness_s.storage ++ (insertedRows witness_s.cfg m pts).take j :=
  every_operation_is_crash_atomic witness_s witness_inv witness_update witness_update_ok.1 witness_update_ok.2
    witness_fs witness_fileOf 15

theorem witness_update_crash_concrete :
    (opSteps witness_s true witness_update).length = 29 ∧
    (run witness_fs ((opSteps witness_s true witness_update).take 15)).temp = some [witness_p1, witness_p2'] ∧
    afterCrash (run witness_fs ((opSteps witness_s true witness_update).take 15)) = [witness_p1, witness_p2, witness_p3] ∧
    afterCrash (run witness_fs ((opSteps witness_s true witness_update).take 25)) = [witness_p1, witness_p2', witness_p3] := by
  decide +kernel

/-- the insert of two points, crashed after 7 of its 10 calls (second row written but not flushed) -/
theorem witness_insert_crash :
    let after := afterCrash (run witness_fs ((opSteps witness_s true witness_insert).take 7))
    after = witness_s.storage ∨ after = (witness_s.step witness_insert).1.storage ∨
    ∃ pts m j, witness_insert = .insert pts m ∧ after = witness_s.storage ++ (insertedRows witness_s.cfg m pts).take j :=
  every_operation_is_crash_atomic witness_s witness_inv witness_insert witness_insert_ok.1 witness_insert_ok.2
    witness_fs witness_fileOf 7

/-- … the file holds the old rows plus the first new one: neither the old nor the new contents (third disjunct) -/
theorem witness_insert_crash_concrete :
    afterCrash (run witness_fs ((opSteps witness_s true witness_insert).take 7)) =
      [witness_p1, witness_p2, witness_p3, witness_p4] ∧
    afterCrash (run witness_fs ((opSteps witness_s true witness_insert).take 7)) =
      witness_s.storage ++ (insertedRows witness_s.cfg none [some witness_p4, some witness_p5]).take 1 ∧
    afterCrash (run witness_fs ((opSteps witness_s true witness_insert).take 7)) ≠ witness_s.storage ∧
    afterCrash (run witness_fs ((opSteps witness_s true witness_insert).take 7)) ≠ (witness_s.step witness_insert).1.storage := by
  decide +kernel

/-- the count: no I/O, nothing to crash in -/
theorem witness_count_crash :
    let after := afterCrash (run witness_fs ((opSteps witness_s true witness_count).take 1))
    after = witness_s.storage ∨ after = (witness_s.step witness_count).1.storage ∨
    ∃ pts m j, witness_count = .insert pts m ∧ after = witness_s.storage ++ (insertedRows witness_s.cfg m pts).take j :=
  every_operation_is_crash_atomic witness_s witness_inv witness_count witness_count_ok.1 witness_count_ok.2
    witness_fs witness_fileOf 1

/-! ## the protocol-level theorems at the same file -/

theorem witness_quiet : Quiet witness_fs := Witness.File.quiet

example := rewrite_crash_atomic witness_fs witness_quiet true [some witness_p1, none, some witness_p3] false 12
example := insert_crash_prefix witness_fs witness_quiet [witness_p4, witness_p5] 7

end TinyFlux.Props.C12
