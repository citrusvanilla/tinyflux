import TinyFlux.Mirror.Getters
import TinyFlux.Mirror.DbGetters
import TinyFlux.Mirror.DbTagValues
/-!
# C07 over the translated source: the getters of `tinyflux/index.py` and of `TinyFlux` (database.py)

`Index.get_measurements / get_field_keys / get_field_values / get_tag_keys / get_tag_values / get_timestamps` as translated
(`Generated/IndexImpl.lean`) return, on every state the translated maintenance methods can produce (dict-shaped, no tag key
with an empty inner dict), exactly what the Model's getters return on the `abs`-read state — which `Props/C07.lean` proves
equal to the Spec's answers whenever the index represents the storage. So do the getters of `TinyFlux` itself, `len(db)` and
`all`, which ask the index when it is valid and scan storage otherwise. The measurement argument `""` is excluded (the code
reads it as "no filter": recorded finding `empty-measurement-name`).
-/
namespace TinyFlux.Props.C07
open TinyFlux.Spec TinyFlux.Model TinyFlux.Mirror TinyFlux.Generated

theorem translated_getters (g : GSelf) (hg : GWF g) (hne : TagsNE g._tags) (m : Option String) (hm : m ≠ some "") :
    IndexImpl.get_measurements g = .ok (Mirror.abs g).getMeasurements
    ∧ IndexImpl.get_field_keys g m = .ok ((Mirror.abs g).getFieldKeys m)
    ∧ (∀ k, IndexImpl.get_field_values g k m = .ok ((Mirror.abs g).getFieldValues k m))
    ∧ IndexImpl.get_tag_keys g m = .ok ((Mirror.abs g).getTagKeys m)
    ∧ (∀ keys, keys.Nodup → IndexImpl.get_tag_values g keys m = .ok ((Mirror.abs g).getTagValues keys m))
    ∧ IndexImpl.get_timestamps g m = .ok ((Mirror.abs g).getTimestamps m) :=
  ⟨get_measurements_ok g hg, get_field_keys_ok g hg m hm, fun k => get_field_values_ok g hg k m hm,
   get_tag_keys_ok g hg hne m hm, fun keys hk => get_tag_values_ok g hg hne keys hk m hm, get_timestamps_ok g hg m hm⟩

/-- the hypotheses of `translated_getters` hold of every state the translated maintenance methods produce -/
theorem translated_states_are_dict_shaped (g : GSelf) :
    (∀ pts g', IndexImpl.build g pts = .ok g' → GWF g' ∧ TagsNE g'._tags)
    ∧ (GWF g → TagsNE g._tags →
        (∀ pts g', g._timestamps.length = g._storage_pos_sorted_by_ts.length → IndexImpl.insert g pts = .ok g' →
            GWF g' ∧ TagsNE g'._tags)
        ∧ (∀ r g', IndexImpl.remove g r = .ok g' → GWF g' ∧ TagsNE g'._tags)
        ∧ (∀ u g', IndexImpl.update g u = .ok g' → GWF g' ∧ TagsNE g'._tags)) := by
  refine ⟨fun pts g' h => ?_, fun hg hne => ⟨fun pts g' hl h => ?_, fun r g' h => ?_, fun u g' h => ?_⟩⟩
  · obtain ⟨g'', h1, h2, _⟩ := build_ok g pts
    obtain rfl : g'' = g' := Except.ok.inj (h1.symm.trans h)
    exact ⟨h2, build_ne g pts g'' h1⟩
  · obtain ⟨g'', h1, h2, _⟩ := insert_ok g pts hg hl
    obtain rfl : g'' = g' := Except.ok.inj (h1.symm.trans h)
    exact ⟨h2, insert_ne g pts hg hne g'' h1⟩
  · by_cases hle : r.length ≤ g._num_items
    · obtain ⟨g'', h1, h2, _⟩ := remove_ok g r hg hle
      obtain rfl : g'' = g' := Except.ok.inj (h1.symm.trans h)
      exact ⟨h2, remove_ne g r hg g'' h1⟩
    · rw [remove_range g r hg (by omega)] at h; cases h
  · obtain ⟨g'', h1, h2, _⟩ := update_ok g u hg
    obtain rfl : g'' = g' := Except.ok.inj (h1.symm.trans h)
    exact ⟨h2, update_ne g u hg hne g'' h1⟩

/-- the getters of `TinyFlux` itself (database.py), as translated: `len(db)`, `get_measurements`, `get_field_keys`,
    `get_tag_keys`, `get_field_values`, `get_timestamps` — index path (the translated index getter, sorted where the API
    sorts) and scan path (the loop over storage with the measurement filter) — return what the Model's `step` answers on the
    `absDB`-read state (`Mirror.model_getters_are_step`), which `Props/C07.lean` proves to be the Spec's answer. The translated
    `get_timestamps` returns `datetime` objects (`DateTime`), the Model instants in microseconds, so the two are compared
    after `.us` -/
theorem translated_db_getters (norm : Point → Point) (g : DSelf) (hg : GWF g._index) (hne : TagsNE g._index._tags)
    (hwf : ∀ p ∈ g._storage._items, WFPoint p) (m : Option String) (hm : m ≠ some "") :
    DatabaseImpl.__len__ g = .ok (modelLen (absDB norm g))
    ∧ DatabaseImpl.get_measurements g = .ok (modelMeasurements (absDB norm g))
    ∧ DatabaseImpl.get_field_keys g m = .ok (modelFieldKeys (absDB norm g) m)
    ∧ DatabaseImpl.get_tag_keys g m = .ok (modelTagKeys (absDB norm g) m)
    ∧ (∀ k, DatabaseImpl.get_field_values g k m = .ok (modelFieldValues (absDB norm g) k m))
    ∧ (DatabaseImpl.get_timestamps g m).map (fun l => l.map (·.us)) = .ok (modelTimestamps (absDB norm g) m) :=
  ⟨len_ok norm g, db_get_measurements_ok norm g hg, db_get_field_keys_ok norm g hg m hm,
   db_get_tag_keys_ok norm g hg hne m hm, fun k => db_get_field_values_ok norm g hg hwf k m hm,
   db_get_timestamps_ok norm g hg m hm⟩

/-- … and those `model…` functions are literally what `State.step` answers -/
theorem model_getters_are_the_models_step (s : State) (k : String) (m : Option String) :
    (s.step .len).2 = .nat (modelLen s)
    ∧ (s.step .getMeasurements).2 = .strs (modelMeasurements s.readOp)
    ∧ (s.step (.getFieldKeys m)).2 = .strs (modelFieldKeys s.readOp m)
    ∧ (s.step (.getTagKeys m)).2 = .strs (modelTagKeys s.readOp m)
    ∧ (s.step (.getFieldValues k m)).2 = .nums (modelFieldValues s.readOp k m)
    ∧ (s.step (.getTimestamps m)).2 = .times (modelTimestamps s.readOp m) :=
  model_getters_are_step s k m

/-- `TinyFlux.get_tag_values(tag_keys, measurement)` of database.py as translated (index path: the translated index getter, each
    value list sorted with `None` last; scan path: requested keys sorted and present even without values, every stored point of
    the measurement contributing its requested tags): what the Model's `step` answers for `.getTagValues`
    (`model_tag_values_is_the_models_step`) -/
theorem translated_db_get_tag_values (norm : Point → Point) (g : DSelf) (hg : GWF g._index) (hne : TagsNE g._index._tags)
    (keys : List String) (hk : keys.Nodup) (m : Option String) (hm : m ≠ some "") :
    DatabaseImpl.get_tag_values g keys m = .ok (modelTagValues (absDB norm g) keys m) :=
  db_get_tag_values_ok norm g hg hne keys hk m hm

theorem model_tag_values_is_the_models_step (s : State) (keys : List String) (m : Option String) :
    (s.step (.getTagValues keys m)).2 = .tagVals (modelTagValues s.readOp keys m) :=
  model_tag_values_is_step s keys m

/-- `TinyFlux.all(sorted)` as translated: every stored row, in a stable time order when asked for — and that is what the
    Model's `step` answers for `.all sorted` -/
theorem translated_all (norm : Point → Point) (g : DSelf) (sorted : Bool) :
    DatabaseImpl.all g sorted = .ok (if sorted then State.sortByTime g._storage._items else g._storage._items)
    ∧ ((absDB norm g).step (.all sorted)).2
        = .points (if sorted then State.sortByTime g._storage._items else g._storage._items) :=
  all_ok norm g sorted

/-- non-vacuity: the getters of the index the translated `build` produces for two concrete points -/
example : ∃ g', IndexImpl.build (IndexImpl.__init__ true)
      [{ time := 5, meas := "a", tags := [("k", some "v")], fields := [("f", some (.fin 1))] },
       { time := 3, meas := "b", tags := [("k", some "w")], fields := [("f", none)] }] = .ok g'
    ∧ IndexImpl.get_tag_keys g' (some "a") = .ok ((Mirror.abs g').getTagKeys (some "a"))
    ∧ IndexImpl.get_timestamps g' none = .ok ((Mirror.abs g').getTimestamps none) := by
  obtain ⟨g', h1, h2, _⟩ := build_ok (IndexImpl.__init__ true)
      [{ time := 5, meas := "a", tags := [("k", some "v")], fields := [("f", some (.fin 1))] },
       { time := 3, meas := "b", tags := [("k", some "w")], fields := [("f", none)] }]
  have hne := build_ne _ _ g' h1
  exact ⟨g', h1, (translated_getters g' h2 hne (some "a") (by decide)).2.2.2.1,
         (translated_getters g' h2 hne none (by decide)).2.2.2.2.2⟩

end TinyFlux.Props.C07
