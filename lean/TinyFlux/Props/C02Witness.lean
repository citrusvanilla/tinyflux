import TinyFlux.Props.C02
import TinyFlux.Props.Witness.Database
/-!
# C02 — non-vacuity witnesses

The hypotheses of the theorems of `Props/C02.lean` (`Inv s`, `m ≠ some ""`, `name ≠ ""`, "matches nothing")
are jointly satisfiable by concrete, non-trivial states, and the conclusions then say something concrete:
every main theorem is instantiated at a three-point database under a CSV configuration (automatic index,
the real row round trip as `norm`) and a memory configuration (no automatic index) with a removal that
deletes one point of three (index path, with renumbering, resp. scan path), all hypotheses discharged,
and the resulting states and return values are computed (`decide +kernel`).
-/
namespace TinyFlux.Props.C02
open TinyFlux.Spec TinyFlux.Model

/-! ## the witness database of `Props/Witness/Database.lean` (the two configurations and the codec pair are
explained in `Props/Witness/Storable.lean`), under this property's names -/

def encQ (q : Rat) : Codec.Str :=
  (if q.num < 0 then 'm' else 'q') :: (List.replicate q.num.natAbs 'i' ++ '/' :: List.replicate q.den 'i')

def wfc : Codec.FieldCodec where
  repr
    | .ninf => ['n'] | .pinf => ['p'] | .fin q => encQ q
  parse
    | ['n'] => some .ninf
    | ['p'] => some .pinf
    | 'q' :: r => some (.fin (mkRat (r.takeWhile (· == 'i')).length ((r.dropWhile (· == 'i')).drop 1).length))
    | 'm' :: r => some (.fin (mkRat (-((r.takeWhile (· == 'i')).length : Int)) ((r.dropWhile (· == 'i')).drop 1).length))
    | _ => none

def wtc : Codec.TimeCodec where
  iso | .ofNat n => 'T' :: List.replicate n 'i' | .negSucc n => 'U' :: List.replicate n 'i'
  fromIso | 'T' :: r => some (Int.ofNat r.length) | 'U' :: r => some (Int.negSucc r.length) | _ => none

def csvNorm (p : Point) : Point :=
  match Codec.deserialize wfc wtc (Codec.serialize wfc wtc false p) with
  | some q => q
  | none => ⟨0, "", [], []⟩

def csvCfg : Cfg := { autoIndex := true, norm := csvNorm }
def memCfg : Cfg := { autoIndex := false, norm := id }

def p1 : Point := ⟨10, "m1", [("a", some "x"), ("b", none)], [("f", some (.fin 2))]⟩
def p2 : Point := ⟨20, "m1", [("a", some "y")], [("f", some (.fin 7)), ("g", none)]⟩
def p3 : Point := ⟨20, "m2", [("a", some "x")], [("f", some (.fin (5 / 2)))]⟩

def ops0 : List Op := [.insert [some p1, some p2] none, .insert [some p3] none]

def sCsv : State := (runM (init csvCfg) ops0).1
def sMem : State := (runM (init memCfg) ops0).1

/-! ## the hypotheses hold -/

/-- the copies above are the witness database; the evaluations below start from its CSV state in closed form
    (`rw [sCsv_eq, Witness.sCsv_val]`) -/
theorem csvCfg_eq : csvCfg = Witness.csvCfg := rfl
theorem sCsv_eq : sCsv = Witness.sCsv := congrArg (fun cfg => (runM (init cfg) ops0).1) csvCfg_eq
theorem sMem_eq : sMem = Witness.sMem := rfl

theorem witness_csv_norm_not_id : ¬ Good csvCfg ⟨10, "m1", [("a", some "_none")], []⟩ :=
  csvCfg_eq ▸ Witness.csv_norm_not_id

theorem witness_inv_csv : Inv sCsv := sCsv_eq ▸ Witness.inv_csv
theorem witness_inv_mem : Inv sMem := sMem_eq ▸ Witness.inv_mem

theorem witness_state_csv :
    sCsv.storage = [p1, p2, p3] ∧ sCsv.storage.length = 3 ∧ sCsv.index.valid = true ∧
    sCsv.index.numItems = 3 ∧ sCsv.index.ts = [10, 20, 20] ∧ sCsv.index.pos = [0, 1, 2] ∧
    sCsv.cfg.autoIndex = true := sCsv_eq ▸ Witness.state_csv
theorem witness_state_mem :
    sMem.storage = [p1, p2, p3] ∧ sMem.storage.length = 3 ∧ sMem.index.valid = false ∧
    sMem.cfg.autoIndex = false := sMem_eq ▸ Witness.state_mem
theorem witness_rep_csv : Represents sCsv.index sCsv.storage := sCsv_eq ▸ Witness.rep_csv

theorem mOK (s : String) (h : s ≠ "" := by decide) : (some s : Option String) ≠ some "" := Witness.mOK s h
theorem noneOK : (none : Option String) ≠ some "" := Witness.noneOK

/-! ## C02: the main theorems at these states -/

/-- `tag a == "y"`: matches `p2` only — the middle row, so `p3` is renumbered -/
def qY : Query := .tag "a" (.cmp .eq (.str "y"))
/-- `tag a == "x"` -/
def qX : Query := .tag "a" (.cmp .eq (.str "x"))
/-- `~(field g exists)`: inexact (scan path also when indexed); matches `p1` and `p3` -/
def qNG : Query := .not (.field "g" .exists)
/-- matches nothing -/
def qNope : Query := .tag "a" (.cmp .eq (.str "nope"))

/-! ### `remove_refines` -/
example :
    (sCsv.step (.remove qY none)).1.storage = sCsv.storage.filter (fun p => !selected qY none p) ∧
    (sCsv.step (.remove qY none)).2 = .nat (sCsv.storage.filter (selected qY none)).length ∧
    Inv (sCsv.step (.remove qY none)).1 :=
  remove_refines sCsv witness_inv_csv qY none noneOK
example :
    (sMem.step (.remove qX (some "m1"))).1.storage = sMem.storage.filter (fun p => !selected qX (some "m1") p) ∧
    (sMem.step (.remove qX (some "m1"))).2 = .nat (sMem.storage.filter (selected qX (some "m1"))).length ∧
    Inv (sMem.step (.remove qX (some "m1"))).1 :=
  remove_refines sMem witness_inv_mem qX (some "m1") (mOK "m1")
/-- one point of three goes; the index stays valid and is renumbered (`p3`: position 2 ↦ 1) -/
theorem witness_remove_value :
    (sCsv.step (.remove qY none)).1.storage = [p1, p3] ∧ (sCsv.step (.remove qY none)).2 = .nat 1 ∧
    (sCsv.step (.remove qY none)).1.index.valid = true ∧
    (sCsv.step (.remove qY none)).1.index.numItems = 2 ∧
    (sCsv.step (.remove qY none)).1.index.pos = [0, 1] ∧
    (sCsv.step (.remove qY none)).1.index.ts = [10, 20] ∧
    (sCsv.step (.remove qY none)).1.index.measItems "m2" = [1] ∧
    (sMem.step (.remove qY none)).1.storage = [p1, p3] ∧ (sMem.step (.remove qY none)).2 = .nat 1 ∧
    (sMem.step (.remove qX (some "m1"))).1.storage = [p2, p3] ∧ (sMem.step (.remove qX (some "m1"))).2 = .nat 1 ∧
    (sCsv.step (.remove qX (some "m1"))).1.storage = [p2, p3] ∧ (sCsv.step (.remove qX (some "m1"))).2 = .nat 1 ∧
    (sCsv.step (.remove qNG none)).1.storage = [p2] ∧ (sCsv.step (.remove qNG none)).2 = .nat 2 ∧
    (sCsv.step (.remove qNG none)).1.index.valid = true := by
  rw [sCsv_eq, Witness.sCsv_val]
  decide +kernel

/-! ### `drop_refines`, `removeAll_refines` -/
example :
    (sCsv.step (.drop "m2")).1.storage = sCsv.storage.filter (fun p => p.meas != "m2") ∧
    (sCsv.step (.drop "m2")).2 = .nat (sCsv.storage.filter (fun p => p.meas == "m2")).length ∧
    Inv (sCsv.step (.drop "m2")).1 :=
  drop_refines sCsv witness_inv_csv "m2" (by decide)
example :
    (sMem.step (.drop "m1")).1.storage = sMem.storage.filter (fun p => p.meas != "m1") ∧
    (sMem.step (.drop "m1")).2 = .nat (sMem.storage.filter (fun p => p.meas == "m1")).length ∧
    Inv (sMem.step (.drop "m1")).1 :=
  drop_refines sMem witness_inv_mem "m1" (by decide)
example : (sCsv.step .removeAll).1.storage = [] ∧ Inv (sCsv.step .removeAll).1 :=
  removeAll_refines sCsv witness_inv_csv
example : (sMem.step .removeAll).1.storage = [] ∧ Inv (sMem.step .removeAll).1 :=
  removeAll_refines sMem witness_inv_mem
theorem witness_drop_value :
    (sCsv.step (.drop "m2")).1.storage = [p1, p2] ∧ (sCsv.step (.drop "m2")).2 = .nat 1 ∧
    (sCsv.step (.drop "m2")).1.index.valid = true ∧
    (sMem.step (.drop "m1")).1.storage = [p3] ∧ (sMem.step (.drop "m1")).2 = .nat 2 ∧
    (sCsv.step (.drop "zz")).1.storage = [p1, p2, p3] ∧ (sCsv.step (.drop "zz")).2 = .nat 0 ∧
    (sCsv.step .removeAll).1.index.valid = true ∧ (sCsv.step .removeAll).1.index.numItems = 0 ∧
    (sMem.step .removeAll).1.index.valid = false := by
  rw [sCsv_eq, Witness.sCsv_val]
  decide +kernel

/-! ### `remove_nothing_is_identity` -/
theorem witness_nothing_matches :
    (∀ p ∈ sCsv.storage, selected qNope none p = false) ∧
    (∀ p ∈ sMem.storage, selected qX (some "m3") p = false) := by
  rw [witness_state_csv.1, witness_state_mem.1]
  decide +kernel
example : (sCsv.step (.remove qNope none)).1.storage = sCsv.storage ∧ (sCsv.step (.remove qNope none)).2 = .nat 0 :=
  remove_nothing_is_identity sCsv witness_inv_csv qNope none noneOK witness_nothing_matches.1
example :
    (sMem.step (.remove qX (some "m3"))).1.storage = sMem.storage ∧ (sMem.step (.remove qX (some "m3"))).2 = .nat 0 :=
  remove_nothing_is_identity sMem witness_inv_mem qX (some "m3") (mOK "m3") witness_nothing_matches.2
/-- … whereas the hypothesis fails for the queries above, which do match -/
theorem witness_something_matches : ¬ ∀ p ∈ sCsv.storage, selected qY none p = false := by
  rw [witness_state_csv.1]
  decide +kernel

/-! ### `survivors_sublist` -/
example :
    (sCsv.step (.remove qY none)).1.storage.Sublist sCsv.storage ∧
    ∀ p ∈ sCsv.storage, selected qY none p = false → p ∈ (sCsv.step (.remove qY none)).1.storage :=
  survivors_sublist sCsv witness_inv_csv qY none noneOK
example : p3 ∈ (sMem.step (.remove qY none)).1.storage :=
  (survivors_sublist sMem witness_inv_mem qY none noneOK).2 p3 (by decide +kernel) (by decide +kernel)

/-! ### `reads_after_remove` -/
example :
    ((sCsv.step (.remove qY none)).1.step (.search qX (some "m2") true)).2 =
      .points (Spec.search (sCsv.storage.filter (fun p => !selected qY none p)) qX (some "m2") true) :=
  reads_after_remove sCsv witness_inv_csv qY qX none (some "m2") true noneOK (mOK "m2")
example :
    ((sMem.step (.remove qX (some "m1"))).1.step (.search qNG none false)).2 =
      .points (Spec.search (sMem.storage.filter (fun p => !selected qX (some "m1") p)) qNG none false) :=
  reads_after_remove sMem witness_inv_mem qX qNG (some "m1") none false (mOK "m1") noneOK
/-- the read that follows is served from the renumbered index and finds `p3` at its new position -/
theorem witness_reads_after_value :
    ((sCsv.step (.remove qY none)).1.step (.search qX (some "m2") false)).2 = .points [p3] ∧
    ((sCsv.step (.remove qY none)).1.step (.count qX none)).2 = .nat 2 ∧
    ((sCsv.step (.remove qY none)).1.step (.count qY none)).2 = .nat 0 ∧
    ((sMem.step (.remove qX (some "m1"))).1.step (.search qNG none false)).2 = .points [p3] := by
  rw [sCsv_eq, Witness.sCsv_val]
  decide +kernel
theorem witness_reads_after_sorted_value :
    ((sCsv.step (.remove qY none)).1.step (.search qX none true)).2 = .points [p1, p3] := by
  rw [reads_after_remove sCsv witness_inv_csv qY qX none none true noneOK noneOK,
    witness_state_csv.1]
  have h : ([p1, p2, p3].filter (fun p => !selected qY none p)).filter (selected qX none) = [p1, p3] := by
    decide +kernel
  simp only [Spec.search, h, if_true, byTime]
  rw [List.mergeSort_of_pairwise (by decide)]

end TinyFlux.Props.C02
