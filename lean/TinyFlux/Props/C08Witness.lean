import TinyFlux.Props.C08
import TinyFlux.Lemmas.Storable
/-!
# C08 — non-vacuity witness

Concrete instances of every theorem of C08 that has hypotheses: two presentations of one instant (12:13:20 at +02:00
and 10:13:20 UTC), a pair of adjacent microseconds in 2023 (`1700000000123456` and `…457` µs), a concrete rounding
function to a grid of 2²⁰ ticks per second that satisfies `NearGrid` for *every* instant (so the universally
quantified hypothesis `hf` of `float_keys_compare_like_instants` is satisfiable, not only pointwise), the concrete
float keys of the two adjacent microseconds, the way back (`NearMicro`), and two concrete database states with the
same contents, one answering from the index and one by scanning.
-/
namespace TinyFlux.Props.C08
open TinyFlux.Spec TinyFlux.Model

/-! ## instants and presentations -/

/-- 2023-11-14 22:13:20.123456 UTC, in µs -/
def witness_t : Time := 1700000000123456

/-- the same instant read off a clock at +02:00 and at UTC -/
def witness_a : Stamp := { wall := 1700007200123456, offset := 7200000000 }
def witness_b : Stamp := { wall := 1700000000123456, offset := 0 }

/-- `stored_independent_of_presentation`: different presentations, identical stored value -/
theorem witness_stored_identically : witness_a ≠ witness_b ∧ normalise witness_a = normalise witness_b :=
  ⟨by decide, stored_independent_of_presentation witness_a witness_b (by decide)⟩

theorem witness_normalised : normalise witness_a = { wall := 1700000000123456, offset := 0 } := by decide

example := normalise_keeps_instant witness_a
example := normalise_idempotent witness_a

/-! ## queries compare instants, at microsecond resolution -/

def witness_p : Point := { time := witness_t, meas := "cpu", tags := [("host", some "a")], fields := [("load", some (.fin 1))] }

/-- `adjacent_microseconds_distinguished` at `witness_t` and `witness_t + 1` -/
theorem witness_adjacent :
    sem (.time (.cmp .lt (.time (witness_t + 1)))) witness_p = true ∧
    sem (.time (.cmp .lt (.time witness_t))) witness_p = false ∧
    sem (.time (.cmp .eq (.time (witness_t + 1)))) witness_p = false :=
  adjacent_microseconds_distinguished witness_t witness_p rfl

/-- the same, computed -/
theorem witness_adjacent_computed :
    sem (.time (.cmp .lt (.time 1700000000123457))) witness_p = true ∧
    sem (.time (.cmp .lt (.time 1700000000123456))) witness_p = false ∧
    sem (.time (.cmp .eq (.time 1700000000123457))) witness_p = false ∧
    sem (.time (.cmp .eq (.time 1700000000123456))) witness_p = true := by decide +kernel

/-- `time_query_compares_instants` for `≥` against the next microsecond: false -/
theorem witness_time_query :
    sem (.time (.cmp .ge (.time (witness_t + 1)))) witness_p =
      ordCmp .ge (decide (witness_p.time < witness_t + 1)) (witness_p.time == witness_t + 1) ∧
    ordCmp .ge (decide (witness_p.time < witness_t + 1)) (witness_p.time == witness_t + 1) = false :=
  ⟨time_query_compares_instants .ge (witness_t + 1) witness_p, by decide +kernel⟩

/-! ## the float keys -/

/-- round-to-nearest onto a grid of `G` ticks per second -/
def witness_toGrid (G n : Int) : Int := (2 * n * G + 1000000) / 2000000
/-- round-to-nearest back to microseconds -/
def witness_toMicro (G r : Int) : Int := (2 * r * 1000000 + G) / (2 * G)

/-- the hypothesis `hf : ∀ n, NearGrid G n (f n)` is satisfiable: rounding to nearest is within half a tick, always,
    on every grid -/
theorem witness_nearGrid (G n : Int) : NearGrid G n (witness_toGrid G n) := by
  unfold NearGrid witness_toGrid
  -- `2 * n * G` is `2 * (n * G)`: then `n * G` is the only product, and `omega` takes it for an atom
  rw [Int.mul_assoc]
  omega
theorem witness_nearMicro20 (r : Int) : NearMicro 1048576 r (witness_toMicro 1048576 r) := by
  unfold NearMicro witness_toMicro
  omega

/-- the keys of the two adjacent microseconds on the 2²⁰ grid (and on the 2²² grid, binary64's spacing in 2023) -/
theorem witness_keys :
    witness_toGrid 1048576 1700000000123456 = 1782579200129453 ∧
    witness_toGrid 1048576 1700000000123457 = 1782579200129454 ∧
    witness_toGrid 4194304 1700000000123456 = 7130316800517812 ∧
    witness_toGrid 4194304 1700000000123457 = 7130316800517816 := by decide +kernel

/-- `grid_strictMono` at the adjacent microseconds, with the hypotheses checked numerically -/
theorem witness_strictMono : (1782579200129453 : Int) < 1782579200129454 :=
  grid_strictMono 1048576 1700000000123456 1700000000123457 1782579200129453 1782579200129454
    (by decide) (by decide) (by unfold NearGrid; decide) (by unfold NearGrid; decide)

/-- the grid hypothesis matters: on a grid of 1000 ticks per second both instants get the same key -/
theorem witness_coarse_grid_collides :
    witness_toGrid 1000 1700000000123456 = witness_toGrid 1000 1700000000123457 := by decide +kernel

/-- `float_keys_compare_like_instants` for the concrete rounding function, at the adjacent pair and in general -/
theorem witness_keys_compare :
    (witness_toGrid 1048576 1700000000123456 < witness_toGrid 1048576 1700000000123457 ↔
      (1700000000123456 : Int) < 1700000000123457) ∧
    (witness_toGrid 1048576 1700000000123456 = witness_toGrid 1048576 1700000000123457 ↔
      (1700000000123456 : Int) = 1700000000123457) :=
  float_keys_compare_like_instants 1048576 (by decide) (witness_toGrid 1048576) (witness_nearGrid _) _ _

theorem witness_keys_compare_all (n m : Int) :
    (witness_toGrid 4194304 n < witness_toGrid 4194304 m ↔ n < m) ∧
    (witness_toGrid 4194304 n = witness_toGrid 4194304 m ↔ n = m) :=
  float_keys_compare_like_instants 4194304 (by decide) (witness_toGrid 4194304) (witness_nearGrid _) n m

/-- `grid20_roundtrip`: the key of `witness_t`, converted back, is `witness_t` — by the theorem, and computed -/
theorem witness_roundtrip :
    witness_toMicro 1048576 (witness_toGrid 1048576 witness_t) = witness_t :=
  grid20_roundtrip witness_t _ _ (witness_nearGrid _ _) (witness_nearMicro20 _)

theorem witness_roundtrip_computed :
    witness_toMicro 1048576 1782579200129453 = 1700000000123456 ∧
    witness_toMicro 1048576 1782579200129454 = 1700000000123457 := by decide +kernel

theorem witness_roundtrip_all (n : Int) : witness_toMicro 1048576 (witness_toGrid 1048576 n) = n :=
  grid20_roundtrip n _ _ (witness_nearGrid _ _) (witness_nearMicro20 _)

/-! ## on the model: index path and scan path -/

def witness_p1 : Point := { time := 1700000000123455, meas := "cpu", tags := [], fields := [("load", some (.fin 1))] }
def witness_p2 : Point := witness_p
def witness_p3 : Point := { time := 1700000000123457, meas := "mem", tags := [("host", none)], fields := [] }
def witness_history : List Op := [.insert [some witness_p1, some witness_p2, some witness_p3] none]

/-- auto-indexing: time queries are answered by bisecting the index's sorted keys -/
def witness_s₁ : State := (runM (init { autoIndex := true, norm := id }) witness_history).1
/-- no auto-indexing: the insert invalidates the index, time queries scan -/
def witness_s₂ : State := (runM (init { autoIndex := false, norm := id }) witness_history).1

theorem witness_history_ok (cfg : Cfg) (h : cfg.norm = id) : OpsOK cfg witness_history := by
  simp [witness_history, opsOK_cons, opsOK_nil, opOK_insert_none, MeasOK, good_iff_of_norm_id h, WFPoint,
    witness_p1, witness_p2, witness_p, witness_p3]

theorem witness_inv₁ : Inv witness_s₁ := (reachable _ witness_history (witness_history_ok _ rfl)).1
theorem witness_inv₂ : Inv witness_s₂ := (reachable _ witness_history (witness_history_ok _ rfl)).1

theorem witness_paths_differ :
    witness_s₁.index.valid = true ∧ witness_s₂.index.valid = false ∧
    witness_s₁.index.ts = [1700000000123455, 1700000000123456, 1700000000123457] ∧
    witness_s₁.storage = witness_s₂.storage := by decide +kernel

/-- `time_query_same_on_both_paths` for `time < witness_t + 1` -/
theorem witness_both_paths :
    (witness_s₁.step (.search (.time (.cmp .lt (.time (witness_t + 1)))) none false)).2 =
    (witness_s₂.step (.search (.time (.cmp .lt (.time (witness_t + 1)))) none false)).2 :=
  time_query_same_on_both_paths witness_s₁ witness_s₂ witness_inv₁ witness_inv₂ witness_paths_differ.2.2.2
    .lt (witness_t + 1) false

/-- … and the answer: the first two points, not the third (one microsecond later) -/
theorem witness_both_paths_computed :
    (witness_s₁.step (.search (.time (.cmp .lt (.time (witness_t + 1)))) none false)).2 = .points [witness_p1, witness_p2] ∧
    (witness_s₂.step (.search (.time (.cmp .lt (.time (witness_t + 1)))) none false)).2 = .points [witness_p1, witness_p2] ∧
    (witness_s₁.step (.search (.time (.cmp .eq (.time witness_t))) none false)).2 = .points [witness_p2] := by
  decide +kernel

example := sorted_stable [witness_p3, witness_p1, witness_p2] .noop none

/-! ## `update(time=…)` -/

def witness_upd : Upd :=
  { time := some (fun t => .ok (t + 1)), meas := none, tags := none, fields := none, unsetTags := [], unsetFields := [] }

/-- `update_time_is_instant` with a callable that adds one microsecond -/
theorem witness_update_time :
    ({ witness_p with time := 1700000000123457 } : Point).time = witness_t + 1 :=
  update_time_is_instant witness_upd witness_p { witness_p with time := 1700000000123457 } (fun t => .ok (t + 1))
    (witness_t + 1) rfl rfl rfl

end TinyFlux.Props.C08
