import TinyFlux.Lemmas.QueryEval
/-!
# C09 — query expressions mean what the DSL says and never fail on valid points

`Model.eval` mirrors `queries.py` with Python's exceptions made explicit (`TypeError` from an order
comparison with `None` or across types, a raising `map` function, a missing key); `Spec.sem` is the
documented meaning. The theorems hold for **every** query (any nesting depth, arbitrary user
predicates `f : PyV → Bool`, arbitrary regex predicates, arbitrary — possibly raising — map
functions `g : PyV → Option PyV`) and every point.
-/
namespace TinyFlux.Props.C09
open TinyFlux.Spec TinyFlux.Model

/-- evaluating a query on a point never raises, and yields exactly its documented meaning -/
theorem eval_total_and_correct (q : Query) (p : Point) : eval q p = .ok (sem q p) := eval_eq q p

/-- in particular no evaluation ends in an exception -/
theorem eval_never_raises (q : Query) (p : Point) : ∀ e, eval q p ≠ .error e := by
  intro e h; rw [eval_eq] at h; cases h

/-- `~`, `&`, `|` are exactly boolean NOT, AND, OR of their operands' results -/
theorem eval_not (q : Query) (p : Point) : eval (.not q) p = (eval q p).map (!·) := by
  simp [eval_eq, sem, Except.map]
theorem eval_and (q r : Query) (p : Point) :
    eval (.and q r) p = .ok (sem q p && sem r p) := eval_eq (.and q r) p
theorem eval_or (q r : Query) (p : Point) :
    eval (.or q r) p = .ok (sem q p || sem r p) := eval_eq (.or q r) p

/-- a comparison on a missing tag / field key is false, not an error -/
theorem missing_key_is_false (k : String) (l : Leaf) (p : Point) (h : p.tags.lookup k = none) :
    eval (.tag k l) p = .ok false := by simp only [eval_eq, sem, h]
theorem missing_field_is_false (k : String) (l : Leaf) (p : Point) (h : p.fields.lookup k = none) :
    eval (.field k l) p = .ok false := by simp only [eval_eq, sem, h]

/-- an order comparison that is undefined for `None` is false, `==` is false and `!=` is true -/
theorem none_comparisons (k : String) (p : Point) (s : String) (h : p.tags.lookup k = some none) :
    eval (.tag k (.cmp .lt (.str s))) p = .ok false ∧ eval (.tag k (.cmp .eq (.str s))) p = .ok false ∧
    eval (.tag k (.cmp .ne (.str s))) p = .ok true := by
  simp only [eval_eq, sem, h]
  exact ⟨rfl, rfl, rfl⟩

/-- a regular expression test on a value that is not a string (`None`) is false -/
theorem regex_on_none_is_false (k : String) (r : String → Bool) (p : Point)
    (h : p.tags.lookup k = some none) : eval (.tag k (.regex r)) p = .ok false := by
  simp only [eval_eq, sem, h]
  rfl

/-- a `map` function that raises makes the leaf false -/
theorem raising_map_is_false (k : String) (g : PyV → Option PyV) (t : Leaf) (p : Point) (v : Option String)
    (h : p.tags.lookup k = some v) (hg : g (ofOptStr v) = none) : eval (.tag k (.map g t)) p = .ok false := by
  simp only [eval_eq, sem, h, Leaf.eval, hg]

/-- `exists` is exactly key presence; `noop` is always true -/
theorem exists_iff_key (k : String) (p : Point) :
    eval (.tag k .exists) p = .ok (p.tags.lookup k).isSome := by
  simp only [eval_eq, sem]; cases p.tags.lookup k <;> rfl
theorem noop_true (p : Point) : eval .noop p = .ok true := eval_eq .noop p

/-! non-vacuity: a concrete nested query on a concrete point with a `None` tag -/
example : eval (.and (.not (.tag "a" (.regex fun s => s.startsWith "x"))) (.field "f" (.cmp .gt (.num (.fin 0)))))
    { time := 5, meas := "m", tags := [("a", none)], fields := [("f", some (.fin 2))] } = .ok true := by
  rw [eval_eq]; congr 1

end TinyFlux.Props.C09
