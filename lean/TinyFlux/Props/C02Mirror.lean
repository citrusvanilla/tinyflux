import TinyFlux.Mirror.Ops
import TinyFlux.Mirror.DbRemoveHelper
import TinyFlux.Mirror.RemoveClosed
import TinyFlux.Mirror.DbRemove
/-!
# C02 over the translated source: a removal, from `TinyFlux.remove` of database.py down to the index

The first three theorems are about the index alone. After `remove` has dropped the selected rows, the code calls
`Index.remove(removed positions)` and `Index.update(old position ↦ new position)`; as translated from the working
tree, the two leave exactly the index of the surviving points, in their original relative order. (The head of
`C06Mirror.lean` says what `Generated/IndexImpl.lean` is and how `Mirror.abs`, `GWF` and `Represents` read a generated index
state.) The others are about database.py as translated (`Generated/DatabaseImpl.lean`): `_remove_helper`, `remove`,
`drop_measurement` and `_reset_database`, on a database state `g` that `absDB` reads as a Model state. Their hypotheses:
`htemp`, temporary storage is empty (the `temp_storage_op` decorator initialises it); `hlen`, an index that is maintained
counts the stored rows; `hts` (where the translated `Index.search` runs), the two time arrays of the index are equally long.
-/
namespace TinyFlux.Props.C02
open TinyFlux.Spec TinyFlux.Model TinyFlux.Mirror TinyFlux.Generated

theorem translated_index_after_removal (g : GSelf) (l : List Point) (hg : GWF g) (h : Represents (Mirror.abs g) l)
    (keep : Nat → Bool) (removed : List Nat) (updated : AL Nat Nat)
    (hr : ∀ i, i < l.length → removed.contains i = !keep i)
    (hf : ∀ i, i < l.length → keep i = true → (updated.lookup i).getD i = cnt keep 0 i)
    (hlen : removed.length + (keepIdx keep l 0).length = l.length) :
    ∃ g1 g2, IndexImpl.remove g removed = .ok g1 ∧ IndexImpl.update g1 updated = .ok g2 ∧ GWF g2
      ∧ g2._valid = g._valid ∧ Represents (Mirror.abs g2) (keepIdx keep l 0) :=
  gen_remove_update_represents g l hg h keep removed updated hr hf hlen

/-- a removal of more positions than the index holds is not silently truncated by the translation -/
theorem translated_remove_range (g : GSelf) (r : List Nat) (hg : GWF g) (hgt : g._num_items < r.length) :
    IndexImpl.remove g r = .error .range :=
  remove_range g r hg hgt

/-- removing everything resets the index (`_reset_database` → `Index._reset`) -/
theorem translated_reset (g : GSelf) : IndexImpl._reset g = .ok (IndexImpl.__init__ true) := reset_ok g

/-- `TinyFlux._remove_helper` of database.py, translated statement by statement on every run (`Generated/DatabaseImpl.lean`:
    index path with / without measurement filter, scan path, the three exits `nothing removed` / `nothing kept` /
    `swap and renumber`), over the *translated* index and list-level storage: it returns the count the Model's `removeHelper`
    returns and a state that reads as the Model's result — which `remove_refines` (Props/C02.lean) proves to be the Spec's
    removal. What is not translated enters through `modelExt`: `query(point)`, `index_is_exact`, `Index.search`. -/
theorem translated_remove_helper (norm : Point → Point) (g : DSelf) (q : Query) (m : Option String)
    (hg : GWF g._index) (htemp : g._storage._temp = [])
    (hlen : g._auto_index = true → g._index._num_items = g._storage._items.length) :
    match (absDB norm g).removeHelper q m with
    | .ok (s', n) => ∃ g', DatabaseImpl._remove_helper modelExt g q m = .ok (g', n) ∧ StateEq (absDB norm g') s'
        ∧ GWF g'._index
    | .error _ => ∃ e', DatabaseImpl._remove_helper modelExt g q m = .error e' :=
  remove_helper_ok norm g q m hg htemp hlen

/-- … and over the *translated* `Index.search` (`translatedExt`): every method a removal runs through below
    `_remove_helper` — Index.search, _search_helper, the leaf searches, find_*, Index.remove / update / invalidate / _reset —
    is generated code; what stays outside is `query(point)`, `index_is_exact` and the storage object -/
theorem translated_remove_helper_closed (norm : Point → Point) (g : DSelf) (q : Query) (m : Option String)
    (hg : GWF g._index) (hts : g._index._timestamps.length = g._index._storage_pos_sorted_by_ts.length)
    (htemp : g._storage._temp = [])
    (hlen : g._auto_index = true → g._index._num_items = g._storage._items.length) :
    match (absDB norm g).removeHelper q m with
    | .ok (s', n) => ∃ g', DatabaseImpl._remove_helper translatedExt g q m = .ok (g', n) ∧ StateEq (absDB norm g') s'
        ∧ GWF g'._index
    | .error _ => ∃ e', DatabaseImpl._remove_helper translatedExt g q m = .error e' :=
  remove_helper_closed norm g q m hg hts htemp hlen

/-- the public entry points `TinyFlux.remove(query, measurement)` and `TinyFlux.drop_measurement(name)` as translated:
    what the Model's `removeHelper` returns, which is what its `.remove` / `.drop` steps call once `readOp` has run -/
theorem translated_remove (norm : Point → Point) (g : DSelf) (q : Query) (m : Option String)
    (hg : GWF g._index) (hts : g._index._timestamps.length = g._index._storage_pos_sorted_by_ts.length)
    (htemp : g._storage._temp = [])
    (hlen : g._auto_index = true → g._index._num_items = g._storage._items.length) :
    match (absDB norm g).removeHelper q m with
    | .ok (s', n) => ∃ g', DatabaseImpl.remove translatedExt g q m = .ok (g', n) ∧ StateEq (absDB norm g') s'
        ∧ GWF g'._index
    | .error _ => ∃ e', DatabaseImpl.remove translatedExt g q m = .error e' :=
  db_remove_closed norm g q m hg hts htemp hlen

theorem translated_drop_measurement (norm : Point → Point) (g : DSelf) (name : String)
    (hg : GWF g._index) (hts : g._index._timestamps.length = g._index._storage_pos_sorted_by_ts.length)
    (htemp : g._storage._temp = [])
    (hlen : g._auto_index = true → g._index._num_items = g._storage._items.length) :
    match (absDB norm g).removeHelper (.meas (.cmp .eq (.str name))) (some name) with
    | .ok (s', n) => ∃ g', DatabaseImpl.drop_measurement translatedExt g name = .ok (g', n) ∧ StateEq (absDB norm g') s'
        ∧ GWF g'._index
    | .error _ => ∃ e', DatabaseImpl.drop_measurement translatedExt g name = .error e' :=
  db_drop_closed norm g name hg hts htemp hlen

/-- `TinyFlux._reset_database` as translated: the Model's `resetDatabase`, exactly -/
theorem translated_reset_database (norm : Point → Point) (g : DSelf) :
    ∃ g', DatabaseImpl._reset_database g = .ok g' ∧ absDB norm g' = (absDB norm g).resetDatabase
      ∧ g'._storage._temp = g._storage._temp ∧ GWF g'._index :=
  reset_database_ok norm g

/-- non-vacuity: a concrete translated database state (three rows, the index the translated `build` gives for them) meets
    the hypotheses of `translated_remove_helper` -/
example : ∃ idx, IndexImpl.build (IndexImpl.__init__ true)
      [{ time := 5, meas := "a", tags := [("k", some "v")], fields := [] },
       { time := 3, meas := "b", tags := [("k", some "w")], fields := [("f", none)] },
       { time := 5, meas := "a", tags := [], fields := [] }] = .ok idx
    ∧ GWF idx ∧ idx._num_items = 3 := by
  obtain ⟨g', h1, h2, h3⟩ := build_ok (IndexImpl.__init__ true)
      [{ time := 5, meas := "a", tags := [("k", some "v")], fields := [] },
       { time := 3, meas := "b", tags := [("k", some "w")], fields := [("f", none)] },
       { time := 5, meas := "a", tags := [], fields := [] }]
  refine ⟨g', h1, h2, ?_⟩
  have := h3.num
  simpa [Mirror.abs, Index.build, Index.buildFrom] using this

end TinyFlux.Props.C02
