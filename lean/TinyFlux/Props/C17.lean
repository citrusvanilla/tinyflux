import TinyFlux.Model.QHash
/-!
# C17 — queries that compare equal behave identically

Stated over query *syntax* (`SQ`), the hash each DSL constructor attaches according to the tables
regenerated from `queries.py` (`Generated.hashShape`, `Generated.compoundHash`), and `==` as the code
defines it. User predicates, map functions and the regex engine are an arbitrary `Env`.
The theorems hold for all queries of any depth.
-/
namespace TinyFlux.Props.C17
open TinyFlux.Spec TinyFlux.Model.QHash TinyFlux.Generated

def leafTuple (a : Attr) (ks : List String) (l : SLeaf) : List HAtom :=
  (shapeOf (ctorName a l)).filterMap (comp a ks l)

def cmpOp : Cmp → String
  | .eq => "==" | .ne => "!=" | .lt => "<" | .le => "<=" | .gt => ">" | .ge => ">="

/-- the operator name in a leaf's hash tuple -/
def opName : SLeaf → String
  | .cmp c _ => cmpOp c | .exists => "exists" | .matches .. => "matches" | .search .. => "search" | .test .. => "test"

/-- the parameters of a leaf, as they follow attribute, operator and path in its hash tuple -/
def params : SLeaf → List HAtom
  | .cmp _ r => [.val r] | .exists => [] | .matches r f | .search r f => [.str r, .nat f] | .test f as => [.fn f, .vals as]

/-- the slots of the generated table that `params` fills -/
def slots : SLeaf → List HComp
  | .cmp .. => [.rhs] | .exists => [] | .matches .. | .search .. => [.regex, .flags] | .test .. => [.func, .args]

/-- The generated table, read once: every constructor's row is attribute, operator, path and the leaf's own slots
    (this fails to check when `queries.py` drops or reorders a component). -/
theorem shapeOf_ctorName (a : Attr) (l : SLeaf) :
    shapeOf (ctorName a l) = .attr :: .op (opName l) :: .path :: slots l := by
  cases l with
  | cmp c r => cases c <;> dsimp only [ctorName, cmpName, opName, cmpOp, slots] <;> decide +kernel
  | «exists» => dsimp only [ctorName, opName, slots]; split <;> decide +kernel
  | _ => dsimp only [ctorName, opName, slots] <;> decide +kernel

theorem leafTuple_eq (a : Attr) (ks : List String) (l : SLeaf) :
    leafTuple a ks l = .attr a :: .op (opName l) :: .path ks :: params l := by
  rw [leafTuple, shapeOf_ctorName]
  cases l <;> rfl

theorem tup_cmp (a : Attr) (ks : List String) (c : Cmp) (r : PyV) :
    leafTuple a ks (.cmp c r) = [.attr a, .op (cmpOp c), .path ks, .val r] := leafTuple_eq ..
theorem tup_matches (a : Attr) (ks : List String) (r : String) (f : Nat) :
    leafTuple a ks (.matches r f) = [.attr a, .op "matches", .path ks, .str r, .nat f] := leafTuple_eq ..
theorem tup_search (a : Attr) (ks : List String) (r : String) (f : Nat) :
    leafTuple a ks (.search r f) = [.attr a, .op "search", .path ks, .str r, .nat f] := leafTuple_eq ..
theorem tup_test (a : Attr) (ks : List String) (f : Nat) (as : List PyV) :
    leafTuple a ks (.test f as) = [.attr a, .op "test", .path ks, .fn f, .vals as] := leafTuple_eq ..

theorem cmpOp_inj (c c' : Cmp) (h : cmpOp c = cmpOp c') : c = c' := by
  cases c <;> cases c' <;> first | rfl | simp [cmpOp] at h

/-- The parameters tell the kinds of leaf apart, except `matches` from `search` and the six comparisons from each
    other, which the operator name does. -/
theorem leaf_of_op_params {l l' : SLeaf} (ho : opName l = opName l') (hp : params l = params l') : l = l' := by
  cases l <;> cases l' <;> cases hp
  · rw [cmpOp_inj _ _ ho]
  · rfl
  · rfl
  · simp [opName] at ho
  · simp [opName] at ho
  · rfl
  · rfl

/-- every parameter a leaf's meaning depends on occurs in its hash tuple: equal tuples come from the
    same attribute, the same key path and the same leaf -/
theorem leaf_hash_inj (a a' : Attr) (ks ks' : List String) (l l' : SLeaf)
    (h : leafTuple a ks l = leafTuple a' ks' l') : a = a' ∧ ks = ks' ∧ l = l' := by
  rw [leafTuple_eq, leafTuple_eq] at h
  injection h with ha h
  injection h with ho h
  injection h with hk hp
  exact ⟨HAtom.attr.inj ha, HAtom.path.inj hk, leaf_of_op_params (HAtom.op.inj ho) hp⟩

theorem leaf_hash_ne_nil (a : Attr) (ks : List String) (l : SLeaf) : leafTuple a ks l ≠ [] := by
  rw [leafTuple_eq]; exact List.cons_ne_nil _ _

theorem keysOf_eq {p : List Step} {ks : List String} (h : keysOf p = some ks) : p = ks.map .key := by
  induction p generalizing ks with
  | nil => cases h; rfl
  | cons s t ih =>
    cases s with
    | key k =>
      obtain ⟨ks', hk, rfl⟩ := Option.map_eq_some_iff.mp h
      rw [ih hk]; rfl
    | map f => cases h

theorem opTag_and (c : Cls) : opTag c "__and__" = "and" := by cases c <;> decide +kernel
theorem opTag_or (c : Cls) : opTag c "__or__" = "or" := by cases c <;> decide +kernel

theorem opTags_distinct (c c' : Cls) :
    opTag c "__and__" ≠ opTag c' "__or__" := by
  rw [opTag_and, opTag_or]; simp

/-- the connective that the tag of a compound hash tuple stands for: every tag but "and" is read as `||`. That `.or`
    gets another tag than `.and` (`opTag_or`, `opTag_and`) enters `hashOf_inv` by evaluation; `heq` compares the tags, so
    an `and` pair is never matched with an `or` pair -/
def tagOp (n : String) : Bool → Bool → Bool := if n = "and" then and else or

theorem tagOp_comm (n : String) (x y : Bool) : tagOp n x y = tagOp n y x := by
  unfold tagOp; split
  · exact Bool.and_comm x y
  · exact Bool.or_comm x y

/-- Inversion of `hashOf` by the shape of the hash value, not of the query: `heq_sound` goes along the cases of `heq`,
    which sees hash values only. -/
theorem hashOf_inv {q : SQ} {h : HV} (e : hashOf q = some h) :
    match h with
    | .tuple t => (t = [] ∧ ∃ a, q = .noop a) ∨ ∃ a ks l, t = leafTuple a ks l ∧ q = .simple a (ks.map .key) l
    | .un _ h' => ∃ q', hashOf q' = some h' ∧ ∀ env p, evalS env q p = !evalS env q' p
    | .pair n a b => ∃ q' r', hashOf q' = some a ∧ hashOf r' = some b ∧
        ∀ env p, evalS env q p = tagOp n (evalS env q' p) (evalS env r' p) := by
  cases q with
  | simple a path l =>
    rw [hashOf] at e
    split at e
    · cases e
    · next ks hk => cases e; exact .inr ⟨a, ks, l, rfl, by rw [keysOf_eq hk]⟩
  | noop a => cases e; exact .inl ⟨rfl, a, rfl⟩
  | not q =>
    obtain ⟨h', hq, rfl⟩ := Option.map_eq_some_iff.mp e
    exact ⟨q, hq, fun _ _ => rfl⟩
  | and q r =>
    rw [hashOf, opTag_and] at e
    split at e
    · next hq hr => cases e; exact ⟨q, r, hq, hr, fun _ _ => rfl⟩
    · cases e
  | or q r =>
    rw [hashOf, opTag_or] at e
    split at e
    · next hq hr => cases e; exact ⟨q, r, hq, hr, fun _ _ => rfl⟩
    · cases e

/-- equal hash values (Python `==`) come from queries with the same truth value on every point -/
theorem heq_sound (env : Env) (q1 q2 : SQ) (h1 h2 : HV) (e1 : hashOf q1 = some h1) (e2 : hashOf q2 = some h2)
    (he : heq h1 h2 = true) (p : Point) : evalS env q1 p = evalS env q2 p := by
  -- along the cases of `heq`: two leaf tuples, two unordered pairs, two negations, anything else (never equal)
  fun_induction heq h1 h2 generalizing q1 q2 with
  | case1 t t' =>
    cases eq_of_beq he
    obtain ⟨ht, a, rfl⟩ | ⟨a, ks, l, ht, rfl⟩ := hashOf_inv e1 <;>
      obtain ⟨ht', a', rfl⟩ | ⟨a', ks', l', ht', rfl⟩ := hashOf_inv e2
    · rfl
    · exact absurd (ht'.symm.trans ht) (leaf_hash_ne_nil _ _ _)
    · exact absurd (ht.symm.trans ht') (leaf_hash_ne_nil _ _ _)
    · obtain ⟨rfl, rfl, rfl⟩ := leaf_hash_inj _ _ _ _ _ _ (ht.symm.trans ht'); rfl
  | case2 n a b n' c d ihac ihbd ihad ihbc =>
    -- the operands may match either way round, and the connective is commutative
    obtain ⟨qa, qb, ha, hb, ev1⟩ := hashOf_inv e1
    obtain ⟨qc, qd, hc, hd, ev2⟩ := hashOf_inv e2
    simp only [Bool.and_eq_true, Bool.or_eq_true, beq_iff_eq] at he
    obtain ⟨rfl, ⟨hac, hbd⟩ | ⟨had, hbc⟩⟩ := he
    · rw [ev1, ev2, ihac qa qc ha hc hac, ihbd qb qd hb hd hbd]
    · rw [ev1, ev2, ihad qa qd ha hd had, ihbc qb qc hb hc hbc, tagOp_comm]
  | case3 n a n' b ih =>
    obtain ⟨qa, ha, ev1⟩ := hashOf_inv e1
    obtain ⟨qb, hb, ev2⟩ := hashOf_inv e2
    rw [ev1, ev2, ih qa qb ha hb (Bool.and_eq_true_iff.mp he).2]
  | case4 => cases he

/-- **C17**: two queries that compare equal evaluate to the same truth value on every point -/
theorem eq_sound (env : Env) (q1 q2 : SQ) (h : qeq q1 q2 = true) (p : Point) :
    evalS env q1 p = evalS env q2 p := by
  unfold qeq at h
  split at h
  · next h1 h2 e1 e2 => exact heq_sound env q1 q2 h1 h2 e1 e2 (Bool.and_eq_true_iff.mp h).2 p
  · cases h

theorem heq_refl (h : HV) : heq h h = true := by
  induction h with
  | tuple l => exact beq_self_eq_true l
  | pair n a b iha ihb =>
    show (n == n && (heq a a && heq b b || heq a b && heq b a)) = true
    rw [iha, ihb, beq_self_eq_true]; rfl
  | un n a ih =>
    show (n == n && heq a a) = true
    rw [ih, beq_self_eq_true]; rfl

theorem heq_pair_comm (n : String) (a b : HV) : heq (.pair n a b) (.pair n b a) = true := by
  show (n == n && (heq a b && heq b a || heq a a && heq b b)) = true
  rw [heq_refl, heq_refl, beq_self_eq_true, Bool.and_self, Bool.or_true, Bool.and_self]

/-- `a & b == b & a` and `a | b == b | a` for hashable operands -/
theorem and_comm_eq (a b : SQ) (ha : (hashOf a).isSome) (hb : (hashOf b).isSome) :
    qeq (.and a b) (.and b a) = true := by
  obtain ⟨x, hx⟩ := Option.isSome_iff_exists.mp ha
  obtain ⟨y, hy⟩ := Option.isSome_iff_exists.mp hb
  simp only [qeq, hashOf, hx, hy, opTag_and, truthy, heq_pair_comm, Bool.and_self]

theorem or_comm_eq (a b : SQ) (ha : (hashOf a).isSome) (hb : (hashOf b).isSome) :
    qeq (.or a b) (.or b a) = true := by
  obtain ⟨x, hx⟩ := Option.isSome_iff_exists.mp ha
  obtain ⟨y, hy⟩ := Option.isSome_iff_exists.mp hb
  simp only [qeq, hashOf, hx, hy, opTag_or, truthy, heq_pair_comm, Bool.and_self]

theorem hashOf_none_of_hasMap (q : SQ) (h : hasMap q = true) : hashOf q = none := by
  induction q with
  | simple a path l =>
    have : keysOf path = none := by
      induction path with
      | nil => cases h
      | cons s t ih =>
        cases s with
        | key k => rw [keysOf, ih h]; rfl
        | map f => rfl
    rw [hashOf, this]
  | noop a => cases h
  | not q ih => rw [hashOf, ih h]; rfl
  | and q r ihq ihr =>
    rw [hashOf]
    rcases Bool.or_eq_true_iff.mp h with h | h
    · rw [ihq h]
    · rw [ihr h]; cases hashOf q <;> rfl
  | or q r ihq ihr =>
    rw [hashOf]
    rcases Bool.or_eq_true_iff.mp h with h | h
    · rw [ihq h]
    · rw [ihr h]; cases hashOf q <;> rfl

/-- a query containing a map function is never equal to anything (not even to itself) -/
theorem map_never_equal (q r : SQ) (h : hasMap q = true) : qeq q r = false ∧ qeq r q = false := by
  have := hashOf_none_of_hasMap q h
  constructor
  · simp [qeq, this]
  · simp only [qeq, this]; cases hashOf r <;> rfl

/-- a bare `noop` query is never equal to anything -/
theorem noop_never_equal (a : Attr) (r : SQ) : qeq (.noop a) r = false := by
  simp only [qeq, hashOf]
  cases hashOf r <;> simp [truthy]

/-! non-vacuity: two syntactically different but equal queries, and a non-equal pair -/
example : qeq (.and (.simple .tags [.key "a"] (.cmp .eq (.str "x"))) (.simple .fields [.key "f"] .exists))
              (.and (.simple .fields [.key "f"] .exists) (.simple .tags [.key "a"] (.cmp .eq (.str "x")))) = true := by
  decide +kernel
example : qeq (.simple .tags [.key "a"] (.matches "x" 0)) (.simple .tags [.key "a"] (.matches "x" 2)) = false := by
  decide +kernel

end TinyFlux.Props.C17
