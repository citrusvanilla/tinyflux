import TinyFlux.Spec.Types
import TinyFlux.Generated.Validators
/-!
# C14 — no API path lets an invalid value into the database

(T) Both halves are over definitions regenerated from the source on every run.
`accept` are the acceptance predicates translated from the `isinstance` / `is None` expressions of
`validate_tags`, `validate_fields` and the `time` / `measurement` setters (with `bool ⊂ int`);
`entryChecks` records, per API entry point and slot, that the validator call or guard precedes the
store (constructor, the four setters, insert incl. the re-validation of the dicts, static update
arguments, results of update callables). The theorems: a value is accepted iff it is well-typed for
its slot — for all ten modelled Python types — and every entry point validates every slot it can
write. Stored points are therefore always well-typed; in the database model (`Model/DB.lean`) that
is the typing of `Spec.Point` itself.
(C) the battery of wrongly-typed values × slots × entry points is run on the real code.
-/
namespace TinyFlux.Props.C14
open TinyFlux.Spec TinyFlux.Generated

def toV : PyType → VType
  | .none => .none | .bool => .bool | .int => .int | .float => .float | .str => .str
  | .bytes => .bytes | .list => .list | .dict => .dict | .datetime => .datetime | .other => .other

/-- the acceptance predicate the code applies to a slot -/
def accept : Slot → PyType → Bool
  | .time => acceptTime | .meas => acceptMeasurement | .tagKey => acceptTagKey
  | .tagValue => acceptTagValue | .fieldKey => acceptFieldKey | .fieldValue => acceptFieldValue

def allTypes : List PyType := [.none, .bool, .int, .float, .str, .bytes, .list, .dict, .datetime, .other]
def allSlots : List Slot := [.time, .meas, .tagKey, .tagValue, .fieldKey, .fieldValue]

theorem allTypes_complete (t : PyType) : t ∈ allTypes := by cases t <;> decide
theorem allSlots_complete (s : Slot) : s ∈ allSlots := by cases s <;> decide

/-- a value is accepted exactly when it is well-typed for its slot (booleans are not numbers, `None`
    is a tag value and a field value but neither a key, a time nor a measurement) -/
theorem accept_iff_welltyped (s : Slot) (t : PyType) : accept s t = wellTyped s (toV t) :=
  -- one evaluation of the 6 × 10 table, over the two lists just shown to be complete
  (by decide +kernel : ∀ s ∈ allSlots, ∀ t ∈ allTypes, accept s t = wellTyped s (toV t))
    s (allSlots_complete s) t (allTypes_complete t)

theorem sets_must_be_mappings (t : PyType) : acceptMapping t = (t == .dict) := rfl

/-- the (entry point, slot) pairs through which data can reach storage -/
def required : List (String × String) :=
  [("constructor", "calls_validate"), ("constructor", "time"), ("constructor", "measurement"),
   ("constructor", "tags"), ("constructor", "fields"),
   ("setter", "time"), ("setter", "measurement"), ("setter", "tags"), ("setter", "fields"),
   ("insert", "is_point"), ("insert", "tags"), ("insert", "fields"),
   ("update_static", "time"), ("update_static", "measurement"), ("update_static", "tags"), ("update_static", "fields"),
   ("update_callable", "time"), ("update_callable", "measurement"), ("update_callable", "tags"), ("update_callable", "fields")]

/-- every entry point validates every slot it can write, before the store -/
theorem every_entry_point_validates :
    required.all (fun r => entryChecks.contains (r.1, r.2, true)) = true := by decide +kernel

/-- a value supplied through an entry point is stored only if that entry point's check (which exists,
    by `every_entry_point_validates`) lets it through -/
def storedVia (entry slotName : String) (s : Slot) (t : PyType) : Bool :=
  if entryChecks.contains (entry, slotName, true) then accept s t else true

/-- a listed entry point stores exactly what its check accepts -/
theorem storedVia_required {e : String × String} (he : e ∈ required) (s : Slot) (t : PyType) :
    storedVia e.1 e.2 s t = accept s t :=
  if_pos (List.all_eq_true.mp every_entry_point_validates e he)

/-- **C14**: whatever the entry point and the slot, a value that gets stored is well-typed -/
theorem no_invalid_value_stored (entry slotName : String) (h : (entry, slotName) ∈ required)
    (s : Slot) (t : PyType) (hst : storedVia entry slotName s t = true) : wellTyped s (toV t) = true :=
  (accept_iff_welltyped s t).symm.trans ((storedVia_required h s t).symm.trans hst)

/-- in particular the wrongly-typed battery of the property is rejected in every slot … -/
theorem battery_rejected :
    accept .fieldValue .bool = false ∧ accept .fieldValue .str = false ∧ accept .tagValue .int = false ∧
    accept .tagKey .none = false ∧ accept .fieldKey .int = false ∧ accept .time .str = false ∧
    accept .time .none = false ∧ accept .meas .none = false ∧ accept .meas .bytes = false ∧
    accept .tagValue .bytes = false ∧ accept .fieldValue .list = false ∧ accept .fieldValue .dict = false := by
  decide +kernel

/-- … and the valid values are not -/
theorem valid_accepted :
    accept .fieldValue .int = true ∧ accept .fieldValue .float = true ∧ accept .fieldValue .none = true ∧
    accept .tagValue .none = true ∧ accept .tagValue .str = true ∧ accept .time .datetime = true := by decide +kernel

end TinyFlux.Props.C14
