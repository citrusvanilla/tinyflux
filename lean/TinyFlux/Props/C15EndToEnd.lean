import TinyFlux.Lemmas.IOOps
/-! # C15, end to end (database model ⋈ I/O model; `opSteps`, `FileOf` and the flush argument: see `C04EndToEnd.lean`) -/
namespace TinyFlux.Props.C15
open TinyFlux.Model TinyFlux.Model.IO TinyFlux.Spec

/-- no read operation (queries, getters, len, iteration, all, reindex), in any state, makes an I/O call that
    can change the database file -/
theorem every_read_operation_leaves_the_file_alone (s : State) (flush : Bool) (op : Op)
    (hr : isRead op = true) : ∀ st ∈ opSteps s flush op, st.mutatesPrimary = false :=
  not_mutates_of_readOnly (IOOpsAux.opSteps_readOnly_of_isRead s flush op hr)

/-- a remove / drop_measurement / update that reports 0 or raises makes no I/O call that can change the
    database file -/
theorem every_noop_write_leaves_the_file_alone (s : State) (hs : Inv s) (flush : Bool) (op : Op)
    (hop : (∃ q m, op = .remove q m) ∨ (∃ n, op = .drop n) ∨ (∃ a q u m, op = .update a q u m))
    (hok : OpOK s.cfg op) (hm : MeasOK op)
    (hout : (s.step op).2 = .nat 0 ∨ ∃ e, (s.step op).2 = .err e) :
    ∀ st ∈ opSteps s flush op, st.mutatesPrimary = false := by
  have _ := hok  -- not needed, as in `C04.every_operation_leaves_the_file_holding_the_contents`
  obtain ⟨X, e, hX⟩ := IOOpsAux.write_shape s hs flush op hop hm
  intro st hst
  rw [e] at hst
  rcases List.mem_append.mp hst with h | h
  · exact not_mutates_of_readOnly (IOOpsAux.reindexSteps_readOnly s) st h
  · exact hX.no_mutation hout st h

/-- when any operation has completed, no temp file exists -/
theorem every_operation_removes_its_temp_file (s : State) (hs : Inv s) (op : Op)
    (hok : OpOK s.cfg op) (hm : MeasOK op) (fs : FS Point) (hfs : FileOf s fs) :
    (run fs (opSteps s true op)).temp = none :=
  have _ := hok  -- not needed, as in `C04.every_operation_leaves_the_file_holding_the_contents`
  (op_io s hs op hm fs hfs).1.2.noTemp

end TinyFlux.Props.C15
