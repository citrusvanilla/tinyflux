import TinyFlux.Lemmas.Refinement
import TinyFlux.Lemmas.SpecOps
/-!
# C03 — update changes exactly the matching points, with documented merge semantics

`Spec.upd` is the documented change of one point: time and measurement replaced, tags and fields merged
key by key (`dictUpdate`), then the unset keys erased; static values are constant callables.
Guard: the measurement argument is not `""` (known finding `empty-measurement-name`);
`OpOK`: what the update produces is storable (dict-shaped and, for CSV, codable — C05).
-/
namespace TinyFlux.Props.C03
open TinyFlux.Spec TinyFlux.Model TinyFlux.Model.PropsAux2

/-- `update` / `update_all`: storage and return value are the Spec's, errors included; invariant kept -/
theorem update_refines (s : State) (hs : Inv s) (all : Bool) (q : Query) (u : Upd) (m : Option String)
    (hok : OpOK s.cfg (.update all q u m)) (hm : m ≠ some "") :
    (s.step (.update all q u m)).1.storage = (Spec.step s.storage (.update all q u m)).1 ∧
    (s.step (.update all q u m)).2 = (Spec.step s.storage (.update all q u m)).2 ∧
    Inv (s.step (.update all q u m)).1 := by
  obtain ⟨h1, h2, _, h4⟩ := step_write_refines s hs (.update all q u m) rfl hok hm
  exact ⟨h2, h1, h4⟩

/-- positions never move: the database keeps its length, and a point that is not selected is untouched -/
theorem order_untouched (db db' : DB) (u : Upd) (q : Query) (m : Option String) (n : Nat)
    (h : Spec.update db u q m = .ok (db', n)) :
    db'.length = db.length ∧
    ∀ i (hi : i < db.length) (hi' : i < db'.length), selected q m db[i] = false → db'[i] = db[i] :=
  update_order_untouched db db' u q m n h

/-- a selected point becomes its updated version (or stays as it is when the update changes nothing) -/
theorem selected_updated (db db' : DB) (u : Upd) (q : Query) (m : Option String) (n : Nat)
    (h : Spec.update db u q m = .ok (db', n)) :
    ∀ i (hi : i < db.length) (hi' : i < db'.length), selected q m db[i] = true →
      ∃ p', upd u db[i] = .ok p' ∧ db'[i] = (if p'.eqv db[i] then db[i] else p') := by
  obtain ⟨_, hf⟩ := update_pointwise db db' u q m n h
  intro i hi hi' hsel
  have := hf i hi hi'
  rw [Writes.specF, if_pos hsel] at this
  obtain ⟨p', hp', h'⟩ := Except.bind_eq_ok.mp this
  exact ⟨p', hp', (Except.ok.inj h').symm⟩

/-- the count is the number of points whose content changed -/
theorem update_count (db db' : DB) (u : Upd) (q : Query) (m : Option String) (n : Nat)
    (h : Spec.update db u q m = .ok (db', n)) :
    n = ((List.zip db db').filter (fun pp => !(pp.1.eqv pp.2))).length := by
  obtain ⟨_, hn⟩ := update_ok db db' u q m n h
  rw [hn, List.countP_eq_length_filter]

/-- merging never drops a key -/
theorem never_drops_keys {V : Type} (d new : List (String × V)) :
    ∀ k, k ∈ d.map (·.1) → k ∈ (dictUpdate d new).map (·.1) := by
  exact PropsAux2.never_drops_keys d new

/-- merged keys carry the new value, the others keep theirs -/
theorem merge_values {V : Type} (d new : List (String × V)) (hn : (new.map (·.1)).Nodup) (k : String) :
    (dictUpdate d new).lookup k = (match new.lookup k with | some v => some v | none => d.lookup k) := by
  exact PropsAux2.merge_values d new hn k

/-- unset keys are gone afterwards, including keys set by the same call -/
theorem unset_after_set (u : Upd) (p p' : Point) (h : upd u p = .ok p') :
    (∀ k ∈ u.unsetTags, p'.tags.lookup k = none) ∧ (∀ k ∈ u.unsetFields, p'.fields.lookup k = none) := by
  obtain ⟨_, _, ht, hf⟩ := tags_fields_of_upd h
  rw [ht, hf]
  exact ⟨fun k hk => lookup_eraseKeys _ _ k hk, fun k hk => lookup_eraseKeys _ _ k hk⟩

/-- `update_all` is `update` with the query that is always true -/
theorem update_all_is_update_noop (db : DB) (q : Query) (u : Upd) (m : Option String) :
    Spec.step db (.update true q u m) = Spec.step db (.update false .noop u m) := by
  simp [Spec.step]

end TinyFlux.Props.C03
