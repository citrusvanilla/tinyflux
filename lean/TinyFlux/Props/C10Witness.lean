import TinyFlux.Props.C10
import TinyFlux.Props.Witness.Database
/-!
# C10 — non-vacuity witnesses

The hypotheses of the theorems of `Props/C10.lean` (`Inv s`, `name ≠ ""`, `OpOK s.cfg (.update …)`,
`OpOK s.cfg (.insert …)`) are jointly satisfiable by concrete, non-trivial states, and the conclusions then say
something concrete: every theorem about the model is instantiated with the handle `"m1"` at a three-point,
two-measurement database under a CSV configuration (automatic index, the real row round trip as `norm`)
and a memory configuration (no automatic index), with all hypotheses discharged, and the resulting states
and return values are computed (`decide +kernel`). (`forward_table_correct` has no hypotheses.)
-/
namespace TinyFlux.Props.C10
open TinyFlux.Spec TinyFlux.Model

/-! ## the witness database of `Props/Witness/Database.lean` (the two configurations and the codec pair are
explained in `Props/Witness/Storable.lean`), under this property's names -/

def encQ (q : Rat) : Codec.Str :=
  (if q.num < 0 then 'm' else 'q') :: (List.replicate q.num.natAbs 'i' ++ '/' :: List.replicate q.den 'i')

def wfc : Codec.FieldCodec where
  repr
    | .ninf => ['n'] | .pinf => ['p'] | .fin q => encQ q
  parse
    | ['n'] => some .ninf
    | ['p'] => some .pinf
    | 'q' :: r => some (.fin (mkRat (r.takeWhile (· == 'i')).length ((r.dropWhile (· == 'i')).drop 1).length))
    | 'm' :: r => some (.fin (mkRat (-((r.takeWhile (· == 'i')).length : Int)) ((r.dropWhile (· == 'i')).drop 1).length))
    | _ => none

def wtc : Codec.TimeCodec where
  iso | .ofNat n => 'T' :: List.replicate n 'i' | .negSucc n => 'U' :: List.replicate n 'i'
  fromIso | 'T' :: r => some (Int.ofNat r.length) | 'U' :: r => some (Int.negSucc r.length) | _ => none

def csvNorm (p : Point) : Point :=
  match Codec.deserialize wfc wtc (Codec.serialize wfc wtc false p) with
  | some q => q
  | none => ⟨0, "", [], []⟩

def csvCfg : Cfg := { autoIndex := true, norm := csvNorm }
def memCfg : Cfg := { autoIndex := false, norm := id }

def p1 : Point := ⟨10, "m1", [("a", some "x"), ("b", none)], [("f", some (.fin 2))]⟩
def p2 : Point := ⟨20, "m1", [("a", some "y")], [("f", some (.fin 7)), ("g", none)]⟩
def p3 : Point := ⟨20, "m2", [("a", some "x")], [("f", some (.fin (5 / 2)))]⟩

def ops0 : List Op := [.insert [some p1, some p2] none, .insert [some p3] none]

def sCsv : State := (runM (init csvCfg) ops0).1
def sMem : State := (runM (init memCfg) ops0).1

/-! ## the hypotheses hold -/

/-- the copies above are the witness database; the evaluations below start from its CSV state in closed form
    (`rw [sCsv_eq, Witness.sCsv_val]`) -/
theorem csvCfg_eq : csvCfg = Witness.csvCfg := rfl
theorem sCsv_eq : sCsv = Witness.sCsv := congrArg (fun cfg => (runM (init cfg) ops0).1) csvCfg_eq
theorem sMem_eq : sMem = Witness.sMem := rfl

theorem witness_csv_norm_not_id : ¬ Good csvCfg ⟨10, "m1", [("a", some "_none")], []⟩ :=
  csvCfg_eq ▸ Witness.csv_norm_not_id

theorem witness_inv_csv : Inv sCsv := sCsv_eq ▸ Witness.inv_csv
theorem witness_inv_mem : Inv sMem := sMem_eq ▸ Witness.inv_mem

theorem witness_state_mem :
    sMem.storage = [p1, p2, p3] ∧ sMem.storage.length = 3 ∧ sMem.index.valid = false ∧
    sMem.cfg.autoIndex = false := sMem_eq ▸ Witness.state_mem
theorem witness_rep_csv : Represents sCsv.index sCsv.storage := sCsv_eq ▸ Witness.rep_csv

/-- the configurations of the two states, without running the histories again -/
theorem witness_cfg : sCsv.cfg = csvCfg ∧ sMem.cfg = memCfg :=
  ⟨(sCsv_eq ▸ Witness.cfg_csv).trans csvCfg_eq.symm, sMem_eq ▸ Witness.cfg_mem⟩

theorem mOK (s : String) (h : s ≠ "" := by decide) : (some s : Option String) ≠ some "" := Witness.mOK s h
theorem noneOK : (none : Option String) ≠ some "" := Witness.noneOK

/-! ## C10: the main theorems at these states, through the handle `db.measurement("m1")` -/

/-- an update that gives only `tags`, as a callable -/
def tagUpd (f : List (String × Option String) → Except Err (List (String × Option String))) : Upd :=
  { time := none, meas := none, tags := some f, fields := none, unsetTags := [], unsetFields := [] }

/-- `tag a == "x"`: matches `p1` (in `m1`) and `p3` (in `m2`) -/
def qX : Query := .tag "a" (.cmp .eq (.str "x"))
/-- `~(field g exists)`: inexact; matches `p1` and `p3` -/
def qNG : Query := .not (.field "g" .exists)
/-- `tags={"a": "z"}` -/
def uZ : Upd := tagUpd (fun _ => .ok [("a", some "z")])

def p1z : Point := ⟨10, "m1", [("a", some "z"), ("b", none)], [("f", some (.fin 2))]⟩
def p2z : Point := ⟨20, "m1", [("a", some "z")], [("f", some (.fin 7)), ("g", none)]⟩
/-- `p3` as stored through the handle `m1` -/
def p3m1 : Point := ⟨20, "m1", [("a", some "x")], [("f", some (.fin (5 / 2)))]⟩
def p4 : Point := ⟨30, "other", [("c", some "w")], []⟩
def p4m1 : Point := ⟨30, "m1", [("c", some "w")], []⟩

theorem nameOK : ("m1" : String) ≠ "" := by decide

/-! ### `handle_search` -/
example :
    (sCsv.step (.search qX (some "m1") true)).2 = .points (Spec.search sCsv.storage qX (some "m1") true) ∧
    ∀ p ∈ Spec.search sCsv.storage qX (some "m1") true, p.meas = "m1" :=
  handle_search sCsv witness_inv_csv "m1" nameOK qX true
example :
    (sMem.step (.search qNG (some "m1") false)).2 = .points (Spec.search sMem.storage qNG (some "m1") false) ∧
    ∀ p ∈ Spec.search sMem.storage qNG (some "m1") false, p.meas = "m1" :=
  handle_search sMem witness_inv_mem "m1" nameOK qNG false
/-- the same queries match `p3` too when asked of the database; the handle returns `p1` only -/
theorem witness_handle_search_value :
    (sCsv.step (.search qX (some "m1") false)).2 = .points [p1] ∧ (sCsv.step (.search qX none false)).2 = .points [p1, p3] ∧
    (sMem.step (.search qNG (some "m1") false)).2 = .points [p1] ∧ (sMem.step (.search qNG none false)).2 = .points [p1, p3] ∧
    (sCsv.step (.search .noop (some "m1") false)).2 = .points [p1, p2] := by
  rw [sCsv_eq, Witness.sCsv_val]
  decide +kernel

/-! ### `handle_len_iter`, `handle_getters` -/
example :
    (sCsv.step (.mlen "m1")).2 = .nat (sCsv.storage.filter (fun p => p.meas == "m1")).length ∧
    (sCsv.step (.miter "m1")).2 = .points (sCsv.storage.filter (fun p => p.meas == "m1")) :=
  handle_len_iter sCsv witness_inv_csv "m1" nameOK
example :
    (sMem.step (.mlen "m1")).2 = .nat (sMem.storage.filter (fun p => p.meas == "m1")).length ∧
    (sMem.step (.miter "m1")).2 = .points (sMem.storage.filter (fun p => p.meas == "m1")) :=
  handle_len_iter sMem witness_inv_mem "m1" nameOK
example :
    (sCsv.step (.getTimestamps (some "m1"))).2 = .times ((sCsv.storage.filter (fun p => p.meas == "m1")).map (·.time)) ∧
    (sCsv.step (.getFieldValues "f" (some "m1"))).2 =
      .nums ((sCsv.storage.filter (fun p => p.meas == "m1")).filterMap (fun p => p.fields.lookup "f")) :=
  handle_getters sCsv witness_inv_csv "m1" nameOK "f"
example :
    (sMem.step (.getTimestamps (some "m1"))).2 = .times ((sMem.storage.filter (fun p => p.meas == "m1")).map (·.time)) ∧
    (sMem.step (.getFieldValues "g" (some "m1"))).2 =
      .nums ((sMem.storage.filter (fun p => p.meas == "m1")).filterMap (fun p => p.fields.lookup "g")) :=
  handle_getters sMem witness_inv_mem "m1" nameOK "g"
theorem witness_handle_getters_value :
    (sCsv.step (.mlen "m1")).2 = .nat 2 ∧ (sCsv.step (.miter "m1")).2 = .points [p1, p2] ∧
    (sMem.step (.mlen "m1")).2 = .nat 2 ∧ (sMem.step (.miter "m1")).2 = .points [p1, p2] ∧
    (sCsv.step (.getFieldValues "f" (some "m1"))).2 = .nums [some (.fin 2), some (.fin 7)] ∧
    (sMem.step (.getFieldValues "g" (some "m1"))).2 = .nums [none] ∧
    (sMem.step (.getTimestamps (some "m1"))).2 = .times [10, 20] := by
  rw [sCsv_eq, Witness.sCsv_val]
  decide +kernel
/-- (indexed state: the time array is sorted back into storage order — evaluated through the theorem) -/
theorem witness_handle_timestamps_value : (sCsv.step (.getTimestamps (some "m1"))).2 = .times [10, 20] := by
  rw [(handle_getters sCsv witness_inv_csv "m1" nameOK "f").1]
  decide +kernel

/-! ### `remove_other_measurements_untouched` -/
example :
    (sCsv.step (.remove qX (some "m1"))).1.storage.filter (fun p => p.meas != "m1") =
      sCsv.storage.filter (fun p => p.meas != "m1") ∧
    (sCsv.step (.drop "m1")).1.storage.filter (fun p => p.meas != "m1") =
      sCsv.storage.filter (fun p => p.meas != "m1") :=
  remove_other_measurements_untouched sCsv witness_inv_csv "m1" nameOK qX
example :
    (sMem.step (.remove qNG (some "m1"))).1.storage.filter (fun p => p.meas != "m1") =
      sMem.storage.filter (fun p => p.meas != "m1") ∧
    (sMem.step (.drop "m1")).1.storage.filter (fun p => p.meas != "m1") =
      sMem.storage.filter (fun p => p.meas != "m1") :=
  remove_other_measurements_untouched sMem witness_inv_mem "m1" nameOK qNG
/-- `p3` matches both queries and stays, because it is in `m2` -/
theorem witness_handle_remove_value :
    (sCsv.step (.remove qX (some "m1"))).1.storage = [p2, p3] ∧ (sCsv.step (.remove qX (some "m1"))).2 = .nat 1 ∧
    (sMem.step (.remove qNG (some "m1"))).1.storage = [p2, p3] ∧ (sMem.step (.remove qNG (some "m1"))).2 = .nat 1 ∧
    (sCsv.step (.drop "m1")).1.storage = [p3] ∧ (sCsv.step (.drop "m1")).2 = .nat 2 ∧
    (sCsv.step (.drop "m1")).1.index.valid = true ∧ (sCsv.step (.drop "m1")).1.index.measItems "m2" = [0] ∧
    sCsv.storage.filter (fun p => p.meas != "m1") = [p3] := by
  rw [sCsv_eq, Witness.sCsv_val]
  decide +kernel

/-! ### `update_other_measurements_untouched` -/
/-- `OpOK`: whatever storable point the update is applied to, the result is storable — both configurations
    (`Witness.opOK_update`: the callable returns `[("a", some "z")]` whatever it is given, no sentinel text) -/
theorem witness_opOK_uZ (cfg : Cfg) (hcfg : cfg = csvCfg ∨ cfg = memCfg) (all : Bool) (q : Query) (m : Option String) :
    OpOK cfg (.update all q uZ m) :=
  Witness.opOK_update cfg (csvCfg_eq ▸ hcfg) all q uZ m (by rintro _ ⟨⟩ _ _ _ ⟨⟩; decide)

example :
    let s' := (sCsv.step (.update true qX uZ (some "m1"))).1
    s'.storage.length = sCsv.storage.length ∧
    ∀ i (_ : i < sCsv.storage.length) (_ : i < s'.storage.length), sCsv.storage[i].meas ≠ "m1" → s'.storage[i] = sCsv.storage[i] :=
  update_other_measurements_untouched sCsv witness_inv_csv "m1" nameOK true qX uZ (witness_opOK_uZ _ (Or.inl witness_cfg.1) _ _ _)
example :
    let s' := (sMem.step (.update false qX uZ (some "m1"))).1
    s'.storage.length = sMem.storage.length ∧
    ∀ i (_ : i < sMem.storage.length) (_ : i < s'.storage.length), sMem.storage[i].meas ≠ "m1" → s'.storage[i] = sMem.storage[i] :=
  update_other_measurements_untouched sMem witness_inv_mem "m1" nameOK false qX uZ (witness_opOK_uZ _ (Or.inr witness_cfg.2) _ _ _)
/-- at position 2 (`p3`, measurement `m2`): untouched -/
theorem witness_p3_untouched :
    ∃ (h2 : 2 < sCsv.storage.length) (h2' : 2 < (sCsv.step (.update true qX uZ (some "m1"))).1.storage.length),
      (sCsv.step (.update true qX uZ (some "m1"))).1.storage[2] = sCsv.storage[2] :=
  have hu := update_other_measurements_untouched sCsv witness_inv_csv "m1" nameOK true qX uZ
    (witness_opOK_uZ _ (Or.inl witness_cfg.1) _ _ _)
  have h3 : sCsv.storage = [p1, p2, p3] := sCsv_eq ▸ Witness.state_csv.1
  have h2 : 2 < sCsv.storage.length := by rw [h3]; decide
  ⟨h2, hu.1 ▸ h2, hu.2 2 h2 _ (by simp only [h3]; exact (by decide : p3.meas ≠ "m1"))⟩
/-- `update_all` through the handle changes `p1` and `p2`; `update(qX)` through it changes `p1` only,
    although `p3` matches `qX` -/
theorem witness_handle_update_value :
    (sCsv.step (.update true qX uZ (some "m1"))).1.storage = [p1z, p2z, p3] ∧
    (sCsv.step (.update true qX uZ (some "m1"))).2 = .nat 2 ∧
    (sMem.step (.update false qX uZ (some "m1"))).1.storage = [p1z, p2, p3] ∧
    (sMem.step (.update false qX uZ (some "m1"))).2 = .nat 1 ∧
    (sMem.step (.update false qX uZ none)).1.storage = [p1z, p2, ⟨20, "m2", [("a", some "z")], [("f", some (.fin (5 / 2)))]⟩] := by
  rw [sCsv_eq, Witness.sCsv_val]
  decide +kernel

/-! ### `insert_through_handle_sets_measurement`: points of measurement `m2` and `other`, inserted through `m1` -/
theorem witness_opOK_handle_insert :
    OpOK sCsv.cfg (.insert ([p3, p4].map some) (some "m1")) ∧ OpOK sMem.cfg (.insert ([p3, p4].map some) (some "m1")) :=
  ⟨Witness.opOK_insert _ (.inl (sCsv_eq ▸ Witness.cfg_csv)) _ _ (by decide),
   Witness.opOK_insert _ (.inr (sMem_eq ▸ Witness.cfg_mem)) _ _ (by decide)⟩

example :
    (sCsv.step (.insert ([p3, p4].map some) (some "m1"))).1.storage =
      sCsv.storage ++ [p3, p4].map (fun p => { p with meas := "m1" }) ∧
    (sCsv.step (.insert ([p3, p4].map some) (some "m1"))).2 = .nat [p3, p4].length :=
  insert_through_handle_sets_measurement sCsv witness_inv_csv "m1" nameOK [p3, p4] witness_opOK_handle_insert.1
example :
    (sMem.step (.insert ([p3, p4].map some) (some "m1"))).1.storage =
      sMem.storage ++ [p3, p4].map (fun p => { p with meas := "m1" }) ∧
    (sMem.step (.insert ([p3, p4].map some) (some "m1"))).2 = .nat [p3, p4].length :=
  insert_through_handle_sets_measurement sMem witness_inv_mem "m1" nameOK [p3, p4] witness_opOK_handle_insert.2
theorem witness_handle_insert_value :
    (sCsv.step (.insert ([p3, p4].map some) (some "m1"))).1.storage = [p1, p2, p3, p3m1, p4m1] ∧
    (sCsv.step (.insert ([p3, p4].map some) (some "m1"))).2 = .nat 2 ∧
    (sCsv.step (.insert ([p3, p4].map some) (some "m1"))).1.index.valid = true ∧
    (sCsv.step (.insert ([p3, p4].map some) (some "m1"))).1.index.measItems "m1" = [0, 1, 3, 4] ∧
    (sCsv.step (.insert ([p3, p4].map some) (some "m1"))).1.index.measItems "other" = [] ∧
    (sMem.step (.insert ([p3, p4].map some) (some "m1"))).1.storage = [p1, p2, p3, p3m1, p4m1] := by
  rw [sCsv_eq, Witness.sCsv_val]
  decide +kernel

end TinyFlux.Props.C10
