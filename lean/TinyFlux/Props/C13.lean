import TinyFlux.Model.IO
import TinyFlux.Lemmas.IOLemmas
/-!
# C13 — an I/O error during an operation is reported and corrupts nothing (partial)

A failing I/O call raises out of the operation after a prefix of its steps has run (for `flush`,
`fsync`, `close` the failing call may or may not have taken effect: both prefixes are covered); the
`finally` clause of `temp_storage_op` then closes and removes the temp file. Whatever the prefix,
the database file holds the old or the new contents (for inserts: old plus a prefix of the new rows,
counting rows still buffered in the live handle), and no temp file is left. That the error reaches
the caller and that the live object afterwards answers consistently with its own storage or fails is
validated on the real code by injecting an `OSError` at every call index of every operation.
*Partial*: as C12.
-/
namespace TinyFlux.Props.C13
open TinyFlux.Model.IO
variable {R : Type}

def cleanup : List (Step R) := [.tClose, .tUnlink]

theorem rewrite_fault_atomic (fs : FS R) (hq : Quiet fs) (flush : Bool) (rows : List (Option R)) (rebuild : Bool) (k : Nat) :
    let fs' := run fs ((rewriteSteps flush rows rebuild).take k ++ cleanup)
    (fs'.primary = fs.primary ∨ fs'.primary = newRows rows) ∧ fs'.temp = none := by
  intro fs'
  obtain ⟨h1, _, h3, _⟩ := run_cleanup fs ((rewriteSteps flush rows rebuild).take k)
  rw [show fs'.primary = _ from h1]
  exact ⟨((atomic_rewrite flush rows rebuild _ fs rfl hq).2 k).1, h3⟩

theorem noop_rewrite_fault (fs : FS R) (hq : Quiet fs) (flush : Bool) (rows : List (Option R)) (scanned : Bool) (k : Nat) :
    let fs' := run fs ((noopRewriteSteps flush rows scanned).take k ++ cleanup)
    fs'.primary = fs.primary ∧ fs'.temp = none := by
  intro fs'
  obtain ⟨h1, _, h3, _⟩ := run_cleanup fs ((noopRewriteSteps flush rows scanned).take k)
  rw [show fs'.primary = _ from h1]
  exact ⟨(holds_safe (noopRewriteSteps_safe flush rows scanned) ⟨rfl, hq.noPend⟩ k).1, h3⟩

/-- a failed insert: the file (once the live handle flushes or closes) holds the old contents plus a
    prefix of the new rows, never anything else -/
theorem insert_fault_prefix (fs : FS R) (hq : Quiet fs) (flush : Bool) (rows : List R) (k : Nat) :
    ∃ j, j ≤ rows.length ∧ afterClose (run fs ((appendSteps flush rows).take k)) = fs.primary ++ rows.take j := by
  obtain ⟨j, hj, h⟩ := (append_afterClose fs flush rows).1 k
  refine ⟨j, hj, ?_⟩
  rw [h]
  simp [afterClose, hq.noPend]

/-- a failed `remove_all`: old or empty -/
theorem reset_fault (fs : FS R) (hq : Quiet fs) (k : Nat) :
    afterClose (run fs ((resetSteps (R := R)).take k)) = fs.primary ∨ afterClose (run fs ((resetSteps (R := R)).take k)) = [] := by
  obtain ⟨h1, h2⟩ := (atomic_reset _ fs rfl hq).2 k
  simpa [afterClose, h2] using h1

end TinyFlux.Props.C13
