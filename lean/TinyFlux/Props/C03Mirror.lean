import TinyFlux.Mirror.Ops
/-!
# C03 over the translated source: the index after an update

A changing update ends with `Index.invalidate()` and, when indexing automatically, `Index.build(storage)`; as translated
from the working tree, `build` leaves a valid index that is exactly the index of the updated points, whatever the index
held before. `invalidate` returns the empty invalid index (`IndexImpl.__init__ false`, `invalidate_ok`), so `g0` below is
that state. (The head of `C06Mirror.lean` says what `Generated/IndexImpl.lean` is and how `Mirror.abs`, `GWF` and
`Represents` read a generated index state.)
-/
namespace TinyFlux.Props.C03
open TinyFlux.Spec TinyFlux.Model TinyFlux.Mirror TinyFlux.Generated

theorem translated_rebuild_after_update (g : GSelf) (l : List Point) (hwf : ∀ p ∈ l, WFPoint p) :
    ∃ g0 g', IndexImpl.invalidate g = .ok g0 ∧ g0._valid = false ∧ IndexImpl.build g0 l = .ok g' ∧ GWF g'
      ∧ g'._valid = true ∧ Represents (Mirror.abs g') l := by
  obtain ⟨g', h1, h2, h3, h4⟩ := gen_build_represents (IndexImpl.__init__ false) l hwf
  exact ⟨_, g', invalidate_ok g, rfl, h1, h2, h3, h4⟩

end TinyFlux.Props.C03
