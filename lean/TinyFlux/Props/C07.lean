import TinyFlux.Lemmas.Refinement
/-!
# C07 — exploration getters and lengths report exactly what is stored

Every getter of a state satisfying the invariant (every reachable state, `Props/C06.lean`) returns
the Spec one-liner over the stored contents, with a valid index and without one.
Guard: the measurement argument is not `""` (known finding `empty-measurement-name`).
-/
namespace TinyFlux.Props.C07
open TinyFlux.Spec TinyFlux.Model

theorem measurements_refines (s : State) (hs : Inv s) :
    (s.step .getMeasurements).2 = .strs (measurements s.storage) :=
  read_out_eq s hs .getMeasurements rfl trivial nofun
theorem tagKeys_refines (s : State) (hs : Inv s) (m : Option String) (hm : m ≠ some "") :
    (s.step (.getTagKeys m)).2 = .strs (tagKeys s.storage m) :=
  read_out_eq s hs (.getTagKeys m) rfl hm nofun
theorem fieldKeys_refines (s : State) (hs : Inv s) (m : Option String) (hm : m ≠ some "") :
    (s.step (.getFieldKeys m)).2 = .strs (fieldKeys s.storage m) :=
  read_out_eq s hs (.getFieldKeys m) rfl hm nofun
/-- key → sorted values (None last); compared as a dict (key order irrelevant) -/
theorem tagValues_refines (s : State) (hs : Inv s) (keys : List String) (m : Option String) (hm : m ≠ some "") :
    canon (s.step (.getTagValues keys m)).2 = canon (.tagVals (tagValues s.storage keys m)) :=
  (step_read_refines s hs (.getTagValues keys m) rfl hm).1
theorem fieldValues_refines (s : State) (hs : Inv s) (k : String) (m : Option String) (hm : m ≠ some "") :
    (s.step (.getFieldValues k m)).2 = .nums (fieldValues s.storage k m) :=
  read_out_eq s hs (.getFieldValues k m) rfl hm nofun
theorem timestamps_refines (s : State) (hs : Inv s) (m : Option String) (hm : m ≠ some "") :
    (s.step (.getTimestamps m)).2 = .times (timestamps s.storage m) :=
  read_out_eq s hs (.getTimestamps m) rfl hm nofun
theorem len_refines (s : State) (hs : Inv s) : (s.step .len).2 = .nat s.storage.length :=
  read_out_eq s hs .len rfl trivial nofun
theorem iter_refines (s : State) (hs : Inv s) : (s.step .iter).2 = .points s.storage :=
  read_out_eq s hs .iter rfl trivial nofun
theorem all_refines (s : State) (hs : Inv s) (sorted : Bool) :
    (s.step (.all sorted)).2 = .points (Spec.all s.storage sorted) :=
  read_out_eq s hs (.all sorted) rfl trivial nofun
theorem measurement_len_refines (s : State) (hs : Inv s) (name : String) (hn : name ≠ "") :
    (s.step (.mlen name)).2 = .nat (s.storage.filter (fun p => p.meas == name)).length := by
  rw [read_out_eq s hs (.mlen name) rfl hn nofun]
  simp only [Spec.step, restrict_some]
theorem measurement_iter_all_refines (s : State) (hs : Inv s) (name : String) (sorted : Bool) (hn : name ≠ "") :
    (s.step (.miter name)).2 = .points (s.storage.filter (fun p => p.meas == name)) ∧
    (s.step (.mall name sorted)).2 = .points (Spec.all (s.storage.filter (fun p => p.meas == name)) sorted) := by
  rw [read_out_eq s hs (.miter name) rfl hn nofun,
    read_out_eq s hs (.mall name sorted) rfl hn nofun]
  simp only [Spec.step, restrict_some, and_self]

/-- getters never change storage -/
theorem getters_leave_storage (s : State) (hs : Inv s) (op : Op) (hr : isRead op = true) (hm : MeasOK op) :
    (s.step op).1.storage = s.storage :=
  (step_read_refines s hs op hr hm).2.1

/-! the documented orders, stated on the Spec: sorted-unique keys; values in insertion order -/
theorem measurements_sorted_unique (db : DB) :
    (measurements db).Pairwise (fun a b => a < b) ∧ ∀ s, s ∈ measurements db ↔ ∃ p ∈ db, p.meas = s := by
  refine ⟨sortStr_strict _ (nodup_eraseDups _), fun s => ?_⟩
  simp only [measurements, mem_sortStr, List.mem_eraseDups, List.mem_map]
theorem fieldValues_insertion_order (db : DB) (k : String) (m : Option String) :
    fieldValues db k m = (db.filter (fun p => m.all (· == p.meas))).filterMap (fun p => p.fields.lookup k) := rfl

end TinyFlux.Props.C07
