import TinyFlux.Lemmas.Refinement
import TinyFlux.Lemmas.SpecOps
import TinyFlux.Generated.Forward
/-!
# C10 — a Measurement handle is exactly the database restricted to that measurement

Two halves. (T) `forward_table_correct`: over the table `Generated.forward` that the translator
regenerates from `measurement.py` + `database.py` (every `Measurement` method, the `TinyFlux` method it
calls, and which argument is bound to which parameter — positional arguments resolved against the
parsed signatures), every method calls its namesake with every own parameter bound to the parameter
of the same name and the measurement parameter bound to `self._name`. So an operation through
`db.measurement(name)` *is* the database operation with `m = some name`; the handle holds only the
name, so it does not matter when it was obtained. (C) what the database operation with a
measurement filter does — stated here on the model, whose refinement of the Spec is
`Lemmas/Refinement.lean`.
Guard: `name ≠ ""` (known finding `empty-measurement-name`).
-/
namespace TinyFlux.Props.C10
open TinyFlux.Spec TinyFlux.Model TinyFlux.Model.PropsAux2

/-- the `TinyFlux` method a `Measurement` method must call -/
def targetOf (meth : String) : String :=
  if meth = "remove_all" then "drop_measurement" else if meth = "update_all" then "update" else meth

/-- the parameter of the target that receives `self._name` -/
def measParam (target : String) : String :=
  if target = "drop_measurement" then "name" else if target = "update" then "_measurement" else "measurement"

/-- own parameter ↦ parameter of the same name (`select`'s `keys` is `select_keys` in `TinyFlux`) -/
def renameParam (p : String) : String := if p = "keys" then "select_keys" else p

/-- row layout: see `Generated.forward`; the one binding that is neither an own parameter nor `self._name` is `update_all`'s
    `query=MeasurementQuery().noop()` (`"!noop_measurement_query"`) -/
def entryOK (e : String × String × List String × List (String × String)) : Bool :=
  let (meth, tgt, own, binds) := e
  tgt == targetOf meth &&
  own.all (fun p => binds.contains (renameParam p, p)) &&
  binds.contains (measParam tgt, "!name") &&
  binds.all (fun b => b.2 == "!name" → b.1 == measParam tgt) &&
  binds.all (fun b => own.contains b.2 || b.2 == "!name" || (meth == "update_all" && b == ("query", "!noop_measurement_query"))) &&
  (binds.map (·.1)).eraseDups.length == binds.length

/-- every `Measurement` method forwards to its namesake, parameter by parameter, with the measurement
    parameter bound to `self._name`; the methods implemented locally are exactly `__iter__/__len__/all` -/
theorem forward_table_correct :
    Generated.forward.all entryOK = true ∧
    Generated.forward.map (·.1) =
      ["contains", "count", "get", "get_field_keys", "get_field_values", "get_tag_keys", "get_tag_values",
       "get_timestamps", "insert", "insert_multiple", "remove", "remove_all", "search", "select", "update", "update_all"] ∧
    Generated.measurementLocal = ["__iter__", "__len__", "all"] := by
  refine ⟨by decide +kernel, rfl, rfl⟩

/-- the guard `name ≠ ""` in the form `MeasOK` takes on an operation with measurement `some name` -/
theorem some_ne {name : String} (hn : name ≠ "") : some name ≠ some "" := mt Option.some.inj hn

/-- reads through a handle return only points of that measurement, and all of those that match -/
theorem handle_search (s : State) (hs : Inv s) (name : String) (hn : name ≠ "") (q : Query) (sorted : Bool) :
    (s.step (.search q (some name) sorted)).2 = .points (Spec.search s.storage q (some name) sorted) ∧
    ∀ p ∈ Spec.search s.storage q (some name) sorted, p.meas = name :=
  ⟨read_out_eq s hs (.search q (some name) sorted) rfl (some_ne hn) nofun, mem_search_meas _ q name sorted⟩

/-- `len`, iteration and `all()` of a handle (implemented locally in `Measurement`) -/
theorem handle_len_iter (s : State) (hs : Inv s) (name : String) (hn : name ≠ "") :
    (s.step (.mlen name)).2 = .nat (s.storage.filter (fun p => p.meas == name)).length ∧
    (s.step (.miter name)).2 = .points (s.storage.filter (fun p => p.meas == name)) :=
  ⟨by rw [read_out_eq s hs (.mlen name) rfl hn nofun]; simp only [Spec.step, restrict_some],
   by rw [read_out_eq s hs (.miter name) rfl hn nofun]; simp only [Spec.step, restrict_some]⟩

/-- removal through a handle never touches another measurement's points -/
theorem remove_other_measurements_untouched (s : State) (hs : Inv s) (name : String) (hn : name ≠ "") (q : Query) :
    (s.step (.remove q (some name))).1.storage.filter (fun p => p.meas != name) =
      s.storage.filter (fun p => p.meas != name) ∧
    (s.step (.drop name)).1.storage.filter (fun p => p.meas != name) =
      s.storage.filter (fun p => p.meas != name) := by
  rw [(step_write_refines s hs (.remove q (some name)) rfl trivial (some_ne hn)).2.1,
    (step_write_refines s hs (.drop name) rfl trivial hn).2.1]
  exact ⟨filter_other_meas _ q name, filter_other_meas _ .noop name⟩

/-- an update through a handle leaves every point of another measurement exactly where and as it was -/
theorem update_other_measurements_untouched (s : State) (hs : Inv s) (name : String) (hn : name ≠ "")
    (all : Bool) (q : Query) (u : Upd) (hok : OpOK s.cfg (.update all q u (some name))) :
    let s' := (s.step (.update all q u (some name))).1
    s'.storage.length = s.storage.length ∧
    ∀ i (hi : i < s.storage.length) (hi' : i < s'.storage.length), s.storage[i].meas ≠ name → s'.storage[i] = s.storage[i] := by
  intro s'
  have h1 : s'.storage = (Spec.step s.storage (.update all q u (some name))).1 :=
    (step_write_refines s hs _ rfl hok (some_ne hn)).2.1
  rw [h1]
  rcases update_cases s.storage all q u (some name) with ⟨he, _⟩ | ⟨db', n, hu, hst⟩
  · rw [he]
    exact ⟨rfl, fun _ _ _ _ => rfl⟩
  · rw [hst]
    obtain ⟨hl, hun⟩ := update_order_untouched s.storage db' u _ (some name) n hu
    -- a point the update selects carries the handle's name
    exact ⟨hl, fun i hi hi' hne => hun i hi hi' (Bool.eq_false_iff.2 fun hsel => hne (selected_meas _ name _ hsel))⟩

/-- inserting through a handle stores every point under the handle's measurement name -/
theorem insert_through_handle_sets_measurement (s : State) (hs : Inv s) (name : String) (hn : name ≠ "")
    (pts : List Point) (hok : OpOK s.cfg (.insert (pts.map some) (some name))) :
    (s.step (.insert (pts.map some) (some name))).1.storage = s.storage ++ pts.map (fun p => { p with meas := name }) ∧
    (s.step (.insert (pts.map some) (some name))).2 = .nat pts.length := by
  obtain ⟨h1, h2, _⟩ := step_write_refines s hs (.insert (pts.map some) (some name)) rfl hok (some_ne hn)
  rw [h1, h2]
  simp [Spec.step, insertPrefix_some]

/-- the getters of a handle see only the handle's measurement -/
theorem handle_getters (s : State) (hs : Inv s) (name : String) (hn : name ≠ "") (k : String) :
    (s.step (.getTimestamps (some name))).2 = .times ((s.storage.filter (fun p => p.meas == name)).map (·.time)) ∧
    (s.step (.getFieldValues k (some name))).2 =
      .nums ((s.storage.filter (fun p => p.meas == name)).filterMap (fun p => p.fields.lookup k)) := by
  rw [read_out_eq s hs (.getTimestamps (some name)) rfl (some_ne hn) nofun,
    read_out_eq s hs (.getFieldValues k (some name)) rfl (some_ne hn) nofun]
  simp only [Spec.step, timestamps, fieldValues, restrict_some, and_self]

end TinyFlux.Props.C10
