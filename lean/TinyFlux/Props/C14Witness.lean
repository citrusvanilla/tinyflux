import TinyFlux.Props.C14
/-!
# C14 — non-vacuity witness

For each of the six slots a concrete well-typed and a concrete ill-typed Python type, with `accept_iff_welltyped`
instantiated at both (accepted = well-typed = `true`, resp. `false`: both sides of the equivalence occur); and
`no_invalid_value_stored` instantiated at concrete entry points whose hypotheses (`∈ required`, `storedVia … = true`)
hold, next to instances where `storedVia … = false` (the ill-typed value is stopped) and where the membership
hypothesis fails (an entry point that is not in the table stops nothing), so neither hypothesis is idle.
-/
namespace TinyFlux.Props.C14
open TinyFlux.Spec TinyFlux.Generated

/-- slot, a type it may hold, a type it may not hold -/
def witness_table : List (Slot × PyType × PyType) :=
  [(.time, .datetime, .str), (.meas, .str, .none), (.tagKey, .str, .int), (.tagValue, .none, .int),
   (.fieldKey, .str, .bytes), (.fieldValue, .float, .bool)]

theorem witness_table_covers : witness_table.map (·.1) = allSlots := by decide

/-- the good values are well-typed and the bad ones are not (the specification side, computed) -/
theorem witness_spec_side :
    witness_table.all (fun r => wellTyped r.1 (toV r.2.1) && !wellTyped r.1 (toV r.2.2)) = true := by decide

/-- the good values are accepted and the bad ones rejected (the code side, computed) -/
theorem witness_code_side :
    witness_table.all (fun r => accept r.1 r.2.1 && !accept r.1 r.2.2) = true := by decide

/-- `accept_iff_welltyped` at each row, for the good and for the bad value, with the common value spelled out -/
theorem witness_accept_iff :
    ∀ r ∈ witness_table,
      (accept r.1 r.2.1 = wellTyped r.1 (toV r.2.1) ∧ wellTyped r.1 (toV r.2.1) = true) ∧
      (accept r.1 r.2.2 = wellTyped r.1 (toV r.2.2) ∧ wellTyped r.1 (toV r.2.2) = false) := by
  intro r hr
  have h := List.all_eq_true.mp witness_spec_side r hr
  simp only [Bool.and_eq_true, Bool.not_eq_eq_eq_not, Bool.not_true] at h
  exact ⟨⟨accept_iff_welltyped r.1 r.2.1, h.1⟩, ⟨accept_iff_welltyped r.1 r.2.2, h.2⟩⟩

/-- one by one: a float field value and a `None` tag value go in, a `bool` field value and an `int` tag value do not -/
example : accept .fieldValue .float = wellTyped .fieldValue (toV .float) := accept_iff_welltyped .fieldValue .float
example : accept .fieldValue .float = true ∧ wellTyped .fieldValue .float = true := by decide
example : accept .fieldValue .bool = wellTyped .fieldValue (toV .bool) := accept_iff_welltyped .fieldValue .bool
example : accept .fieldValue .bool = false ∧ wellTyped .fieldValue .bool = false := by decide
example : accept .tagValue .none = true ∧ accept .tagValue .int = false := by decide
example : accept .time .datetime = true ∧ accept .time .str = false ∧ accept .time .none = false := by decide

/-- `sets_must_be_mappings` -/
example : acceptMapping .dict = true ∧ acceptMapping .list = false :=
  ⟨by rw [sets_must_be_mappings]; decide, by rw [sets_must_be_mappings]; decide⟩

/-! ## `no_invalid_value_stored` -/

/-- its hypotheses hold for a float stored into a field through `insert` … -/
theorem witness_stored_float : wellTyped .fieldValue (toV .float) = true :=
  no_invalid_value_stored "insert" "fields" (by decide +kernel) .fieldValue .float (by decide +kernel)

/-- … for a datetime produced by an update callable … -/
theorem witness_stored_time : wellTyped .time (toV .datetime) = true :=
  no_invalid_value_stored "update_callable" "time" (by decide +kernel) .time .datetime (by decide +kernel)

/-- … and for a `None` tag value passed to the constructor -/
theorem witness_stored_none_tag : wellTyped .tagValue (toV .none) = true :=
  no_invalid_value_stored "constructor" "tags" (by decide +kernel) .tagValue .none (by decide +kernel)

/-- the hypothesis `storedVia … = true` discriminates: the ill-typed values are stopped at every listed entry point
    (where `storedVia` is `accept`, so this is `witness_code_side`) -/
theorem witness_bad_values_stopped :
    required.all (fun e => witness_table.all (fun r => !storedVia e.1 e.2 r.1 r.2.2 && storedVia e.1 e.2 r.1 r.2.1)) = true := by
  rw [List.all_eq_true]
  intro e he
  simp only [storedVia_required he, Bool.and_comm]
  exact witness_code_side

/-- the hypothesis `∈ required` matters: an entry point without a recorded check would stop nothing -/
theorem witness_unlisted_entry_stops_nothing :
    ("pickle", "fields") ∉ required ∧ storedVia "pickle" "fields" .fieldValue .bool = true ∧
    wellTyped .fieldValue (toV .bool) = false := by decide +kernel

example : required.length = 20 ∧ entryChecks.length = 20 ∧ allTypes.length = 10 ∧ allSlots.length = 6 := by decide

end TinyFlux.Props.C14
