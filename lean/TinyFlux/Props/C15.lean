import TinyFlux.Model.IO
import TinyFlux.Lemmas.IOLemmas
import TinyFlux.Generated.Modes
import TinyFlux.Generated.Decorators
/-!
# C15 — reads and no-op writes change nothing and leave nothing behind (partial)

(T) over the access-mode tuples of `CSVStorage.can_*` and the decorator stack of every public
`TinyFlux` method, both regenerated from the source: in mode `"r"` every mutating method's gate
raises, and the gate is applied *outside* `temp_storage_op`, i.e. before any I/O.
(C) over the step lists: reads make no mutating call; a remove/update that changes nothing never
touches the database file; every operation that creates a temp file removes it again.
*Partial*: directory listings and file bytes are observed on the real code by the harness; the OS is
not modelled beyond the two files.
-/
namespace TinyFlux.Props.C15
open TinyFlux.Model.IO TinyFlux.Generated
variable {R : Type}

def mutating : List String :=
  ["insert", "insert_multiple", "remove", "remove_all", "drop_measurement", "update", "update_all"]

def decosOf (meth : String) : List Deco := (decorators.lookup meth).getD []

/-- does the gate of this decorator let the mode through? -/
def gateOK (mode : String) : Deco → Bool
  | .readOp => modesRead.contains mode
  | .writeOp => modesWrite.contains mode
  | .appendOp => modesAppend.contains mode
  | .tempStorageOp => true

/-- the decorators are applied outermost first: a failing gate is reached before `temp_storage_op`
    iff it occurs earlier in the list -/
def raisesBeforeIO (mode : String) (ds : List Deco) : Bool :=
  match ds.findIdx? (fun d => !gateOK mode d), ds.findIdx? (fun d => d == .tempStorageOp) with
  | some i, some j => i < j
  | some _, none => true
  | none, _ => false

/-- on a database opened read-only, every mutating method raises before any I/O is performed -/
theorem readonly_mode_raises_before_io :
    mutating.all (fun m => raisesBeforeIO "r" (decosOf m)) = true ∧
    mutating.all (fun m => (decorators.lookup m).isSome) = true := by
  decide +kernel

/-- every query / getter method is a `read_op` (auto-reindex happens there) and none of them is a write -/
theorem read_methods_gated :
    ["all", "contains", "count", "get", "get_field_keys", "get_field_values", "get_measurements", "get_tag_keys",
     "get_tag_values", "get_timestamps", "search", "select"].all
      (fun m => decosOf m == [.readOp]) = true := by
  decide +kernel

/-- append-only and write-only modes cannot read -/
theorem mode_tables_consistent :
    modesRead.contains "r" = true ∧ modesWrite.contains "r" = false ∧ modesAppend.contains "r" = false ∧
    modesWrite.contains "a" = false ∧ modesAppend.contains "a" = true ∧ modesRead.contains "a" = false ∧
    ["r+", "w+"].all (fun m => modesRead.contains m && modesWrite.contains m && modesAppend.contains m) = true := by
  decide +kernel

/-- reads make no mutating call and leave the file as it is -/
theorem reads_emit_no_mutating_step (fs : FS R) :
    (∀ s ∈ scanSteps (R := R), s.mutatesPrimary = false) ∧
    (run fs (scanSteps (R := R))).primary ++ (run fs (scanSteps (R := R))).pendP = fs.primary ++ fs.pendP := by
  constructor
  · simp [scanSteps, Step.mutatesPrimary]
  · simp [scanSteps, exec]

/-- a remove / update that matches or changes nothing never touches the database file … -/
theorem noop_write_no_swap (flush : Bool) (rows : List (Option R)) (scanned : Bool) :
    ∀ s ∈ noopRewriteSteps flush rows scanned, s.mutatesPrimary = false := by
  exact fun s hs => Step.not_mutates_of_safe (List.all_eq_true.mp (noopRewriteSteps_safe flush rows scanned) s hs)

/-- … and every operation that creates a temp file has removed it when it returns -/
theorem temp_files_balanced (fs : FS R) (hq : fs.temp = none) (flush : Bool) (rows : List (Option R)) (b : Bool) :
    (run fs (rewriteSteps flush rows b)).temp = none ∧ (run fs (noopRewriteSteps flush rows b)).temp = none ∧
    (run fs (resetInTempSteps flush rows b)).temp = none := by
  have _ := hq  -- holds from any state
  exact ⟨(rewrite_full fs flush rows b).2.1.noTemp, (run_cleanup fs _).2.2.1,
    (resetInTemp_full fs flush rows b).2.noTemp⟩

/-- … also when it raises part-way: `temp_storage_op` cleans up in a `finally` clause, i.e. after any
    prefix of the operation's steps the cleanup `[close temp, unlink temp]` runs -/
theorem temp_files_balanced_on_error (fs : FS R) (hq : fs.temp = none) (steps : List (Step R)) (k : Nat) :
    tempCleanupInFinally = true ∧ (run fs (steps.take k ++ [.tClose, .tUnlink])).temp = none := by
  have _ := hq  -- holds from any state
  exact ⟨by decide, (run_cleanup fs _).2.2.1⟩

end TinyFlux.Props.C15
