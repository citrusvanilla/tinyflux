import TinyFlux.Props.C11
import TinyFlux.Props.Witness.Database
/-!
# C11 — non-vacuity witnesses

The hypotheses of the theorems of `Props/C11.lean` (`Inv s`, `OpOK s.cfg op`, `MeasOK op`, and "the call
returned an error") are jointly satisfiable by concrete, non-trivial states and raising operations, and the
conclusions then say something concrete: every theorem is instantiated at a three-point database under a
CSV configuration (automatic index, the real row round trip as `norm`) and a memory configuration (no
automatic index) with an `insert_multiple` that has a non-Point in second position, an update whose callable
raises on the second of three selected points, and an update given no arguments; all hypotheses are
discharged and the resulting states and return values are computed (`decide +kernel`).
-/
namespace TinyFlux.Props.C11
open TinyFlux.Spec TinyFlux.Model

/-! ## the witness database of `Props/Witness/Database.lean` (the two configurations and the codec pair are
explained in `Props/Witness/Storable.lean`), under this property's names -/

def encQ (q : Rat) : Codec.Str :=
  (if q.num < 0 then 'm' else 'q') :: (List.replicate q.num.natAbs 'i' ++ '/' :: List.replicate q.den 'i')

def wfc : Codec.FieldCodec where
  repr
    | .ninf => ['n'] | .pinf => ['p'] | .fin q => encQ q
  parse
    | ['n'] => some .ninf
    | ['p'] => some .pinf
    | 'q' :: r => some (.fin (mkRat (r.takeWhile (· == 'i')).length ((r.dropWhile (· == 'i')).drop 1).length))
    | 'm' :: r => some (.fin (mkRat (-((r.takeWhile (· == 'i')).length : Int)) ((r.dropWhile (· == 'i')).drop 1).length))
    | _ => none

def wtc : Codec.TimeCodec where
  iso | .ofNat n => 'T' :: List.replicate n 'i' | .negSucc n => 'U' :: List.replicate n 'i'
  fromIso | 'T' :: r => some (Int.ofNat r.length) | 'U' :: r => some (Int.negSucc r.length) | _ => none

def csvNorm (p : Point) : Point :=
  match Codec.deserialize wfc wtc (Codec.serialize wfc wtc false p) with
  | some q => q
  | none => ⟨0, "", [], []⟩

def csvCfg : Cfg := { autoIndex := true, norm := csvNorm }
def memCfg : Cfg := { autoIndex := false, norm := id }

def p1 : Point := ⟨10, "m1", [("a", some "x"), ("b", none)], [("f", some (.fin 2))]⟩
def p2 : Point := ⟨20, "m1", [("a", some "y")], [("f", some (.fin 7)), ("g", none)]⟩
def p3 : Point := ⟨20, "m2", [("a", some "x")], [("f", some (.fin (5 / 2)))]⟩

def ops0 : List Op := [.insert [some p1, some p2] none, .insert [some p3] none]

def sCsv : State := (runM (init csvCfg) ops0).1
def sMem : State := (runM (init memCfg) ops0).1

/-! ## the hypotheses hold -/

/-- the copies above are the witness database; the evaluations below start from its CSV state in closed form
    (`rw [sCsv_eq, Witness.sCsv_val]`) -/
theorem csvCfg_eq : csvCfg = Witness.csvCfg := rfl
theorem sCsv_eq : sCsv = Witness.sCsv := congrArg (fun cfg => (runM (init cfg) ops0).1) csvCfg_eq
theorem sMem_eq : sMem = Witness.sMem := rfl

theorem witness_csv_norm_not_id : ¬ Good csvCfg ⟨10, "m1", [("a", some "_none")], []⟩ :=
  csvCfg_eq ▸ Witness.csv_norm_not_id

theorem witness_inv_csv : Inv sCsv := sCsv_eq ▸ Witness.inv_csv
theorem witness_inv_mem : Inv sMem := sMem_eq ▸ Witness.inv_mem

theorem witness_state_mem :
    sMem.storage = [p1, p2, p3] ∧ sMem.storage.length = 3 ∧ sMem.index.valid = false ∧
    sMem.cfg.autoIndex = false := sMem_eq ▸ Witness.state_mem
theorem witness_rep_csv : Represents sCsv.index sCsv.storage := sCsv_eq ▸ Witness.rep_csv

/-- the configurations of the two states, without running the histories again -/
theorem witness_cfg : sCsv.cfg = csvCfg ∧ sMem.cfg = memCfg :=
  ⟨(sCsv_eq ▸ Witness.cfg_csv).trans csvCfg_eq.symm, sMem_eq ▸ Witness.cfg_mem⟩

theorem mOK (s : String) (h : s ≠ "" := by decide) : (some s : Option String) ≠ some "" := Witness.mOK s h
theorem noneOK : (none : Option String) ≠ some "" := Witness.noneOK

/-! ## C11: the main theorems at these states -/

/-- an update that gives only `tags`, as a callable -/
def tagUpd (f : List (String × Option String) → Except Err (List (String × Option String))) : Upd :=
  { time := none, meas := none, tags := some f, fields := none, unsetTags := [], unsetFields := [] }

def p4 : Point := ⟨30, "m1", [("c", some "w")], []⟩
def p5 : Point := ⟨40, "m2", [], [("f", none)]⟩
def p4m2 : Point := ⟨30, "m2", [("c", some "w")], []⟩

/-- `insert_multiple([p4, <not a Point>, p5])` -/
def badPts : List (Option Point) := [some p4, none, some p5]

/-- `OpOK` of the insert: every *Point* in the argument is storable (also `p5`, which is never reached),
    under whatever measurement: `hm` names the two used below and is not needed -/
theorem witness_opOK_badInsert (m : Option String) (hm : m = none ∨ m = some "m2") :
    OpOK sCsv.cfg (.insert badPts m) ∧ OpOK sMem.cfg (.insert badPts m) :=
  have _ := hm
  ⟨Witness.opOK_insert _ (.inl (sCsv_eq ▸ Witness.cfg_csv)) _ _ (by decide),
   Witness.opOK_insert _ (.inr (sMem_eq ▸ Witness.cfg_mem)) _ _ (by decide)⟩

/-! ### `insert_error_preserves` -/
theorem witness_insert_raises :
    (sCsv.step (.insert badPts none)).2 = .err .type ∧ (sMem.step (.insert badPts (some "m2"))).2 = .err .type := by
  rw [sCsv_eq, Witness.sCsv_val]
  decide +kernel
example :
    Err.type = .type ∧
    (sCsv.step (.insert badPts none)).1.storage = sCsv.storage ++ (insertPrefix none badPts).1 ∧
    (insertPrefix none badPts).2 = true ∧
    Inv (sCsv.step (.insert badPts none)).1 :=
  insert_error_preserves sCsv witness_inv_csv badPts none (witness_opOK_badInsert none (Or.inl rfl)).1 noneOK .type
    witness_insert_raises.1
example :
    Err.type = .type ∧
    (sMem.step (.insert badPts (some "m2"))).1.storage = sMem.storage ++ (insertPrefix (some "m2") badPts).1 ∧
    (insertPrefix (some "m2") badPts).2 = true ∧
    Inv (sMem.step (.insert badPts (some "m2"))).1 :=
  insert_error_preserves sMem witness_inv_mem badPts (some "m2") (witness_opOK_badInsert (some "m2") (Or.inr rfl)).2
    (mOK "m2") .type witness_insert_raises.2
/-- exactly the point before the offending element was stored (and indexed); `p5` was not -/
theorem witness_insert_error_value :
    (sCsv.step (.insert badPts none)).1.storage = [p1, p2, p3, p4] ∧
    (sCsv.step (.insert badPts none)).1.index.valid = true ∧
    (sCsv.step (.insert badPts none)).1.index.numItems = 4 ∧
    (sCsv.step (.insert badPts none)).1.index.ts = [10, 20, 20, 30] ∧
    (insertPrefix none badPts).1 = [p4] ∧
    (sMem.step (.insert badPts (some "m2"))).1.storage = [p1, p2, p3, p4m2] ∧
    (sMem.step (.insert badPts (some "m2"))).1.index.valid = false := by
  rw [sCsv_eq, Witness.sCsv_val]
  decide +kernel
/-- the hypothesis "the call returned an error" is not always true: without the non-Point the call succeeds -/
theorem witness_insert_ok : (sCsv.step (.insert [some p4, some p5] none)).2 = .nat 2 := by
  rw [sCsv_eq, Witness.sCsv_val]
  decide +kernel

/-! ### `update_error_preserves`: a callable that raises on the second selected point -/
/-- `tags=lambda t: (raise if t["a"] == "y" else {"c": "w"})` -/
def uR : Upd :=
  tagUpd (fun tg => if tg.lookup "a" == some (some "y") then .error .user else .ok [("c", some "w")])
/-- no argument given: argument validation raises `ValueError` -/
def uNone : Upd := { time := none, meas := none, tags := none, fields := none, unsetTags := [], unsetFields := [] }

/-- `OpOK` of the update whose callable raises on one point (`Witness.opOK_update`: where it answers, it answers
    `[("c", some "w")]`, no sentinel text) -/
theorem witness_opOK_uR (cfg : Cfg) (hcfg : cfg = csvCfg ∨ cfg = memCfg) (all : Bool) (q : Query) (m : Option String) :
    OpOK cfg (.update all q uR m) := by
  refine Witness.opOK_update cfg (csvCfg_eq ▸ hcfg) all q uR m ?_
  rintro _ ⟨⟩ tg _ _ h
  dsimp only at h
  split at h
  · cases h
  · cases h
    decide
/-- an update that gives nothing returns the point as it is: admissible in every configuration -/
theorem witness_opOK_uNone (cfg : Cfg) (all : Bool) (q : Query) (m : Option String) :
    OpOK cfg (.update all q uNone m) := by
  intro p p' hg hu
  have h : upd uNone p = .ok p := by
    simp [upd, uNone, applyOpt, eraseKeys_nil, bind, Except.bind, pure, Except.pure]
  cases h.symm.trans hu
  exact hg

/-- the callable does not always raise: on `p1` it sets a tag, on `p2` it raises -/
theorem witness_uR_behaviour :
    upd uR p1 = .ok ⟨10, "m1", [("a", some "x"), ("b", none), ("c", some "w")], [("f", some (.fin 2))]⟩ ∧
    upd uR p2 = .error .user := ⟨by rfl, by rfl⟩

theorem witness_update_raises :
    (sCsv.step (.update true .noop uR none)).2 = .err .user ∧
    (sMem.step (.update false (.field "f" .exists) uR (some "m1"))).2 = .err .user ∧
    (sCsv.step (.update false .noop uNone none)).2 = .err .value := by
  rw [sCsv_eq, Witness.sCsv_val]
  decide +kernel
example :
    (sCsv.step (.update true .noop uR none)).1.storage = sCsv.storage ∧ Inv (sCsv.step (.update true .noop uR none)).1 :=
  update_error_preserves sCsv witness_inv_csv true .noop uR none (witness_opOK_uR _ (Or.inl witness_cfg.1) _ _ _) noneOK .user
    witness_update_raises.1
example :
    (sMem.step (.update false (.field "f" .exists) uR (some "m1"))).1.storage = sMem.storage ∧
    Inv (sMem.step (.update false (.field "f" .exists) uR (some "m1"))).1 :=
  update_error_preserves sMem witness_inv_mem false (.field "f" .exists) uR (some "m1")
    (witness_opOK_uR _ (Or.inr witness_cfg.2) _ _ _) (mOK "m1") .user witness_update_raises.2.1
example :
    (sCsv.step (.update false .noop uNone none)).1.storage = sCsv.storage ∧
    Inv (sCsv.step (.update false .noop uNone none)).1 :=
  update_error_preserves sCsv witness_inv_csv false .noop uNone none (witness_opOK_uNone _ _ _ _) noneOK .value
    witness_update_raises.2.2
/-- nothing changed — not even `p1`, which the callable had already rewritten when it raised on `p2` — and
    the index is still the valid one; restricted to `m2`, where it does not raise, the same update goes through -/
theorem witness_update_error_value :
    (sCsv.step (.update true .noop uR none)).1.storage = [p1, p2, p3] ∧
    (sCsv.step (.update true .noop uR none)).1.index.valid = true ∧
    (sCsv.step (.update true .noop uR none)).1.index.numItems = 3 ∧
    (sMem.step (.update false (.field "f" .exists) uR (some "m1"))).1.storage = [p1, p2, p3] ∧
    (sCsv.step (.update true .noop uR (some "m2"))).2 = .nat 1 ∧
    (sCsv.step (.update true .noop uR (some "m2"))).1.storage =
      [p1, p2, ⟨20, "m2", [("a", some "x"), ("c", some "w")], [("f", some (.fin (5 / 2)))]⟩] := by
  rw [sCsv_eq, Witness.sCsv_val]
  decide +kernel

/-! ### `usable_after_any_op` -/
example :
    Inv (sCsv.step (.insert badPts none)).1 ∧
    (sCsv.step (.insert badPts none)).1.storage = (Spec.step sCsv.storage (.insert badPts none)).1 :=
  usable_after_any_op sCsv witness_inv_csv (.insert badPts none) (witness_opOK_badInsert none (Or.inl rfl)).1 noneOK
example :
    Inv (sMem.step (.update true .noop uR none)).1 ∧
    (sMem.step (.update true .noop uR none)).1.storage = (Spec.step sMem.storage (.update true .noop uR none)).1 :=
  usable_after_any_op sMem witness_inv_mem (.update true .noop uR none) (witness_opOK_uR _ (Or.inr witness_cfg.2) _ _ _) noneOK
/-- "still usable", concretely: the calls that follow the failed ones answer normally -/
theorem witness_usable_value :
    ((sCsv.step (.insert badPts none)).1.step (.count (.tag "c" .exists) none)).2 = .nat 1 ∧
    ((sCsv.step (.insert badPts none)).1.step (.remove (.tag "c" .exists) none)).1.storage = [p1, p2, p3] ∧
    ((sCsv.step (.update true .noop uR none)).1.step (.count (.tag "c" .exists) none)).2 = .nat 0 ∧
    ((sMem.step (.update true .noop uR none)).1.step (.search (.tag "a" (.cmp .eq (.str "y"))) none false)).2 =
      .points [p2] := by
  rw [sCsv_eq, Witness.sCsv_val]
  decide +kernel

/-! ### `spec_error_preserves` -/
theorem witness_spec_raises :
    (Spec.step [p1, p2, p3] (.insert badPts none)).2 = .err .type ∧
    (Spec.step [p1, p2, p3] (.update true .noop uR none)).2 = .err .user := by decide +kernel
example :
    (Spec.step [p1, p2, p3] (.insert badPts none)).1 = [p1, p2, p3] ∨
    ∃ pts m, Op.insert badPts none = .insert pts m ∧
      (Spec.step [p1, p2, p3] (.insert badPts none)).1 = [p1, p2, p3] ++ (insertPrefix m pts).1 :=
  spec_error_preserves [p1, p2, p3] (.insert badPts none) .type witness_spec_raises.1
example :
    (Spec.step [p1, p2, p3] (.update true .noop uR none)).1 = [p1, p2, p3] ∨
    ∃ pts m, Op.update true .noop uR none = .insert pts m ∧
      (Spec.step [p1, p2, p3] (.update true .noop uR none)).1 = [p1, p2, p3] ++ (insertPrefix m pts).1 :=
  spec_error_preserves [p1, p2, p3] (.update true .noop uR none) .user witness_spec_raises.2
theorem witness_spec_error_value :
    (Spec.step [p1, p2, p3] (.insert badPts none)).1 = [p1, p2, p3, p4] ∧
    (Spec.step [p1, p2, p3] (.update true .noop uR none)).1 = [p1, p2, p3] := by decide +kernel

end TinyFlux.Props.C11
