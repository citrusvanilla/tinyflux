import TinyFlux.Props.C01
import TinyFlux.Props.Witness.Database
/-!
# C01 — non-vacuity witnesses

The hypotheses of the theorems of `Props/C01.lean` (`Inv s`, `OpsOK cfg ops`, `m ≠ some ""`) are jointly
satisfiable by concrete, non-trivial states, and the conclusions then say something concrete: every main
theorem is instantiated at a three-point database under a CSV configuration (automatic index, the real
row round trip as `norm`) and a memory configuration (no automatic index), with all hypotheses
discharged, and the resulting values are computed by kernel evaluation (`decide +kernel`).
-/
namespace TinyFlux.Props.C01
open TinyFlux.Spec TinyFlux.Model

/-! ## the witness database of `Props/Witness/Database.lean` (the two configurations and the codec pair are
explained in `Props/Witness/Storable.lean`), under this property's names -/

def encQ (q : Rat) : Codec.Str :=
  (if q.num < 0 then 'm' else 'q') :: (List.replicate q.num.natAbs 'i' ++ '/' :: List.replicate q.den 'i')

def wfc : Codec.FieldCodec where
  repr
    | .ninf => ['n'] | .pinf => ['p'] | .fin q => encQ q
  parse
    | ['n'] => some .ninf
    | ['p'] => some .pinf
    | 'q' :: r => some (.fin (mkRat (r.takeWhile (· == 'i')).length ((r.dropWhile (· == 'i')).drop 1).length))
    | 'm' :: r => some (.fin (mkRat (-((r.takeWhile (· == 'i')).length : Int)) ((r.dropWhile (· == 'i')).drop 1).length))
    | _ => none

def wtc : Codec.TimeCodec where
  iso | .ofNat n => 'T' :: List.replicate n 'i' | .negSucc n => 'U' :: List.replicate n 'i'
  fromIso | 'T' :: r => some (Int.ofNat r.length) | 'U' :: r => some (Int.negSucc r.length) | _ => none

def csvNorm (p : Point) : Point :=
  match Codec.deserialize wfc wtc (Codec.serialize wfc wtc false p) with
  | some q => q
  | none => ⟨0, "", [], []⟩

def csvCfg : Cfg := { autoIndex := true, norm := csvNorm }
def memCfg : Cfg := { autoIndex := false, norm := id }

def p1 : Point := ⟨10, "m1", [("a", some "x"), ("b", none)], [("f", some (.fin 2))]⟩
def p2 : Point := ⟨20, "m1", [("a", some "y")], [("f", some (.fin 7)), ("g", none)]⟩
def p3 : Point := ⟨20, "m2", [("a", some "x")], [("f", some (.fin (5 / 2)))]⟩

def ops0 : List Op := [.insert [some p1, some p2] none, .insert [some p3] none]

def sCsv : State := (runM (init csvCfg) ops0).1
def sMem : State := (runM (init memCfg) ops0).1

/-! ## the hypotheses hold -/

/-- the copies above are the witness database; the evaluations below start from its CSV state in closed form
    (`rw [sCsv_eq, Witness.sCsv_val]`) -/
theorem csvCfg_eq : csvCfg = Witness.csvCfg := rfl
theorem sCsv_eq : sCsv = Witness.sCsv := congrArg (fun cfg => (runM (init cfg) ops0).1) csvCfg_eq
theorem sMem_eq : sMem = Witness.sMem := rfl

theorem witness_csv_norm_not_id : ¬ Good csvCfg ⟨10, "m1", [("a", some "_none")], []⟩ :=
  csvCfg_eq ▸ Witness.csv_norm_not_id

theorem witness_inv_csv : Inv sCsv := sCsv_eq ▸ Witness.inv_csv
theorem witness_inv_mem : Inv sMem := sMem_eq ▸ Witness.inv_mem

theorem witness_state_mem :
    sMem.storage = [p1, p2, p3] ∧ sMem.storage.length = 3 ∧ sMem.index.valid = false ∧
    sMem.cfg.autoIndex = false := sMem_eq ▸ Witness.state_mem
theorem witness_rep_csv : Represents sCsv.index sCsv.storage := sCsv_eq ▸ Witness.rep_csv

theorem mOK (s : String) (h : s ≠ "" := by decide) : (some s : Option String) ≠ some "" := Witness.mOK s h
theorem noneOK : (none : Option String) ≠ some "" := Witness.noneOK

/-! ## C01: the main theorems at these states -/

/-- `tag a == "x"  &  ~(field f > 5)` — the negated field leaf makes the query inexact, so also the
    indexed state answers it by scanning -/
def qA : Query := .and (.tag "a" (.cmp .eq (.str "x"))) (.not (.field "f" (.cmp .gt (.num (.fin 5)))))
/-- `~(tag a == "x")  |  time < 15` — exact: the indexed state answers it from the index -/
def qB : Query := .or (.not (.tag "a" (.cmp .eq (.str "x")))) (.time (.cmp .lt (.time 15)))

theorem witness_paths : exact qA = false ∧ exact qB = true := by decide

/-! ### `search_refines` -/
example : (sCsv.step (.search qA none false)).2 = .points (Spec.search sCsv.storage qA none false) :=
  search_refines sCsv witness_inv_csv qA none false noneOK
example : (sMem.step (.search qB (some "m1") true)).2 = .points (Spec.search sMem.storage qB (some "m1") true) :=
  search_refines sMem witness_inv_mem qB (some "m1") true (mOK "m1")
/-- what that says here: `p1` and `p3` carry `a = x` and a value of `f` that is not above 5; `p2` does not -/
theorem witness_search_value :
    Spec.search sCsv.storage qA none false = [p1, p3] ∧
    (sCsv.step (.search qA none false)).2 = .points [p1, p3] ∧
    (sMem.step (.search qA none false)).2 = .points [p1, p3] ∧
    (sCsv.step (.search qB none false)).2 = .points [p1, p2] ∧
    (sMem.step (.search qB none false)).2 = .points [p1, p2] ∧
    (sCsv.step (.search qB (some "m1") false)).2 = .points [p1, p2] ∧
    (sCsv.step (.search qB (some "m2") false)).2 = .points [] := by
  rw [sCsv_eq, Witness.sCsv_val]
  decide +kernel

/-! ### `count_refines`, `contains_refines`, `get_refines`, `select_refines` -/
example : (sCsv.step (.count qA none)).2 = .nat (Spec.search sCsv.storage qA none false).length :=
  count_refines sCsv witness_inv_csv qA none noneOK
example : (sMem.step (.count qB (some "m1"))).2 = .nat (Spec.search sMem.storage qB (some "m1") false).length :=
  count_refines sMem witness_inv_mem qB (some "m1") (mOK "m1")
example : (sCsv.step (.contains qB (some "m2"))).2 = .bool (!(Spec.search sCsv.storage qB (some "m2") false).isEmpty) :=
  contains_refines sCsv witness_inv_csv qB (some "m2") (mOK "m2")
example : (sMem.step (.get qA none)).2 = .point (Spec.search sMem.storage qA none false).head? :=
  get_refines sMem witness_inv_mem qA none noneOK
example : (sCsv.step (.select [.time, .tag "b", .field "f"] qA none)).2 =
    .rows ((Spec.search sCsv.storage qA none false).map (project [.time, .tag "b", .field "f"])) :=
  select_refines sCsv witness_inv_csv [.time, .tag "b", .field "f"] qA none noneOK
theorem witness_count_value :
    (sCsv.step (.count qA none)).2 = .nat 2 ∧ (sMem.step (.count qA none)).2 = .nat 2 ∧
    (sCsv.step (.count qB (some "m1"))).2 = .nat 2 ∧ (sMem.step (.count qB (some "m1"))).2 = .nat 2 ∧
    (sCsv.step (.count qB (some "m2"))).2 = .nat 0 := by
  rw [sCsv_eq, Witness.sCsv_val]
  decide +kernel
theorem witness_contains_get_select_value :
    (sCsv.step (.contains qB (some "m2"))).2 = .bool false ∧
    (sCsv.step (.contains qA (some "m2"))).2 = .bool true ∧
    (sMem.step (.get qA none)).2 = .point (some p1) ∧
    (sCsv.step (.get qA (some "m2"))).2 = .point (some p3) ∧
    (sCsv.step (.select [.time, .tag "b", .field "f"] qA none)).2 =
      .rows [[.time 10, .none, .num (.fin 2)], [.time 20, .none, .num (.fin (5 / 2))]] := by
  rw [sCsv_eq, Witness.sCsv_val]
  decide +kernel

/-! ### `index_path_eq_scan_path`: the indexed CSV state and the unindexed memory state answer alike -/
example :
    (sCsv.step (.search qB none true)).2 = (sMem.step (.search qB none true)).2 ∧
    (sCsv.step (.count qB none)).2 = (sMem.step (.count qB none)).2 :=
  index_path_eq_scan_path sCsv sMem witness_inv_csv witness_inv_mem
    (sCsv_eq ▸ sMem_eq ▸ Witness.state_csv.1.trans Witness.state_mem.1.symm) qB none true noneOK

/-! ### `unsorted_is_insertion_order`, `sorted_is_stable_time_order` (Spec level) on a database that is
not in time order: `p0` (time 5) inserted last -/
def p0 : Point := ⟨5, "m2", [("a", none)], [("g", some (.fin 1))]⟩
def db4 : DB := [p1, p2, p3, p0]

example : (Spec.search db4 qB none false).Sublist db4 ∧
    ∀ p, p ∈ Spec.search db4 qB none false ↔ p ∈ db4 ∧ selected qB none p = true :=
  unsorted_is_insertion_order db4 qB none
example : (Spec.search db4 qB none true).Perm (Spec.search db4 qB none false) ∧
    (Spec.search db4 qB none true).Pairwise (fun a b => a.time ≤ b.time) ∧
    ∀ t, ((Spec.search db4 qB none true).filter (fun p => p.time == t)) =
         ((Spec.search db4 qB none false).filter (fun p => p.time == t)) :=
  sorted_is_stable_time_order db4 qB none
theorem witness_unsorted_value : Spec.search db4 qB none false = [p1, p2, p0] := by decide +kernel
theorem witness_sorted_value : Spec.search db4 qB none true = [p0, p1, p2] := by
  have h : db4.filter (selected qB none) = [p1, p2, p0] := by decide +kernel
  rw [Spec.search, h, if_pos rfl, byTime]
  exact mergeSort_eq_of_perm timeLe_trans timeLe_total (List.perm_append_comm (l₁ := [p0])) (by decide)

/-! ### `after_any_history`: a history with an out-of-order insert, a removal and a reindex -/
def ops1 : List Op :=
  ops0 ++ [.insert [some p0] none, .remove (.tag "a" (.cmp .eq (.str "y"))) none, .reindex]

theorem witness_opsOK1 (cfg : Cfg) (h0 : OpsOK cfg ops0) (hg : Good cfg p0) : OpsOK cfg ops1 := by
  simp [ops1, opsOK_append, opsOK_cons, opsOK_nil, OpOK, MeasOK, setMeas, effMeas, h0, hg]
theorem witness_opsOK1_csv : OpsOK csvCfg ops1 :=
  csvCfg_eq ▸ witness_opsOK1 _ Witness.opsOK_csv Witness.good_p0.1

example : ((runM (init csvCfg) ops1).1.step (.search qB none true)).2 =
    .points (Spec.search (runS [] ops1).1 qB none true) :=
  after_any_history csvCfg ops1 witness_opsOK1_csv qB none true noneOK
example : ((runM (init memCfg) ops1).1.step (.search qA (some "m2") false)).2 =
    .points (Spec.search (runS [] ops1).1 qA (some "m2") false) :=
  after_any_history memCfg ops1 (witness_opsOK1 _ Witness.opsOK_mem Witness.good_p0.2) qA (some "m2") false
    (mOK "m2")
/-- `~(tag a == "x")`: exact, no time leaf -/
def qC : Query := .not (.tag "a" (.cmp .eq (.str "x")))
theorem witness_history_value :
    (runS [] ops1).1 = [p1, p3, p0] ∧ (runM (init csvCfg) ops1).1.storage = [p1, p3, p0] ∧
    (runM (init csvCfg) ops1).1.index.valid = true ∧ (runM (init memCfg) ops1).1.index.valid = true ∧
    ((runM (init csvCfg) ops1).1.step (.search qC none false)).2 = .points [p0] ∧
    ((runM (init memCfg) ops1).1.step (.search qA (some "m2") false)).2 = .points [p3] := by
  rw [csvCfg_eq, ops1, show ops0 = Witness.ops0 from rfl, (Witness.run_csv _).1]
  decide +kernel
/-- the sorted answer of the model to the query with a time leaf, computed through the theorem (the time
    arrays of a rebuilt index and the sorted result go through `mergeSort`, which the kernel does not unfold:
    `mergeSort_eq_of_perm`) -/
theorem witness_history_sorted_value :
    ((runM (init csvCfg) ops1).1.step (.search qB none true)).2 = .points [p0, p1] := by
  rw [after_any_history csvCfg ops1 witness_opsOK1_csv qB none true noneOK]
  have h : (runS [] ops1).1.filter (selected qB none) = [p1, p0] := by decide +kernel
  rw [Spec.search, h, if_pos rfl, byTime]
  exact congrArg Out.points
    (mergeSort_eq_of_perm timeLe_trans timeLe_total (List.Perm.swap p1 p0 []) (by decide))

end TinyFlux.Props.C01
