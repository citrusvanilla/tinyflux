import TinyFlux.Lemmas.IOOps
/-! # C04, end to end: every operation of every reachable state (database model ⋈ I/O model)

`Model.opSteps s flush op` are the I/O calls operation `op` makes in state `s` (the prediction the harness
compares with the recorded calls of the real code); `flush` is `flush_on_insert`. `FileOf s fs` says the file holds
exactly the stored points of `s` with nothing buffered and no temp file, which is what holds between operations only
when inserts flush: the end-to-end theorems of C04, C12, C13 and `C15.every_operation_removes_its_temp_file` are
therefore about `opSteps s true op` (the unflushed append is covered at the level of the protocol,
`C04.append_unflushed_reaches_file`). -/
namespace TinyFlux.Props.C04
open TinyFlux.Model TinyFlux.Model.IO TinyFlux.Spec

/-- after the I/O calls of any operation — also one that raises — the file holds exactly the contents the
    operation leaves -/
theorem every_operation_leaves_the_file_holding_the_contents (s : State) (hs : Inv s) (op : Op)
    (hok : OpOK s.cfg op) (hm : MeasOK op) (fs : FS Point) (hfs : FileOf s fs) :
    FileOf (s.step op).1 (IO.run fs (opSteps s true op)) :=
  have _ := hok  -- not needed: neither the calls nor the contents afterwards depend on the data being storable
  (op_io s hs op hm fs hfs).1

def historySteps (s : State) : List Op → List (Step Point)
  | [] => []
  | op :: t => opSteps s true op ++ historySteps (s.step op).1 t

/-- … hence after every history of operations the file alone holds the current contents -/
theorem every_history_leaves_the_file_holding_the_contents (s : State) (hs : Inv s) (ops : List Op)
    (hok : OpsOK s.cfg ops) (fs : FS Point) (hfs : FileOf s fs) :
    FileOf (runM s ops).1 (IO.run fs (historySteps s ops)) := by
  induction ops generalizing s fs with
  | nil => simpa [runM, historySteps, IO.run] using hfs
  | cons op t ih =>
    have hop := hok op (List.mem_cons_self)
    have hstep := step_refines s hs op hop.1 hop.2
    have hfile := (op_io s hs op hop.2 fs hfs).1
    have hok' : OpsOK (s.step op).1.cfg t := by
      intro o ho; rw [hstep.2.2.1]; exact hok o (List.mem_cons_of_mem _ ho)
    have := ih (s.step op).1 hstep.2.2.2 hok' (IO.run fs (opSteps s true op)) hfile
    simpa [runM, historySteps, run_append] using this

end TinyFlux.Props.C04
