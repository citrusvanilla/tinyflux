import TinyFlux.Props.C06
import TinyFlux.Props.Witness.Database
/-!
# C06 — non-vacuity witnesses

The hypotheses of the theorems of `Props/C06.lean` (`OpsOK cfg ops`, `Inv s`, `Represents i l`, `WFPoint`, `exact q`,
`s.index.valid`, `s.cfg.autoIndex`, the order hypotheses of the two insert theorems) are jointly satisfiable by concrete,
non-trivial states, and the conclusions then say something concrete: every main theorem is instantiated under a CSV
configuration (automatic index, the real row round trip as `norm`) and a memory configuration (no automatic index) — the
reachability theorem at a history with an `insert_multiple` that raises half-way, an out-of-order insert, a removal and a
reindex — with all hypotheses discharged, and the resulting values are computed (`decide +kernel`).
(`reset_clears_every_attribute` has no hypotheses.)
-/
namespace TinyFlux.Props.C06
open TinyFlux.Spec TinyFlux.Model

/-! ## the witness database of `Props/Witness/Database.lean` (the two configurations and the codec pair are
explained in `Props/Witness/Storable.lean`), under this property's names -/

def encQ (q : Rat) : Codec.Str :=
  (if q.num < 0 then 'm' else 'q') :: (List.replicate q.num.natAbs 'i' ++ '/' :: List.replicate q.den 'i')

def wfc : Codec.FieldCodec where
  repr
    | .ninf => ['n'] | .pinf => ['p'] | .fin q => encQ q
  parse
    | ['n'] => some .ninf
    | ['p'] => some .pinf
    | 'q' :: r => some (.fin (mkRat (r.takeWhile (· == 'i')).length ((r.dropWhile (· == 'i')).drop 1).length))
    | 'm' :: r => some (.fin (mkRat (-((r.takeWhile (· == 'i')).length : Int)) ((r.dropWhile (· == 'i')).drop 1).length))
    | _ => none

def wtc : Codec.TimeCodec where
  iso | .ofNat n => 'T' :: List.replicate n 'i' | .negSucc n => 'U' :: List.replicate n 'i'
  fromIso | 'T' :: r => some (Int.ofNat r.length) | 'U' :: r => some (Int.negSucc r.length) | _ => none

def csvNorm (p : Point) : Point :=
  match Codec.deserialize wfc wtc (Codec.serialize wfc wtc false p) with
  | some q => q
  | none => ⟨0, "", [], []⟩

def csvCfg : Cfg := { autoIndex := true, norm := csvNorm }
def memCfg : Cfg := { autoIndex := false, norm := id }

def p1 : Point := ⟨10, "m1", [("a", some "x"), ("b", none)], [("f", some (.fin 2))]⟩
def p2 : Point := ⟨20, "m1", [("a", some "y")], [("f", some (.fin 7)), ("g", none)]⟩
def p3 : Point := ⟨20, "m2", [("a", some "x")], [("f", some (.fin (5 / 2)))]⟩

def ops0 : List Op := [.insert [some p1, some p2] none, .insert [some p3] none]

def sCsv : State := (runM (init csvCfg) ops0).1
def sMem : State := (runM (init memCfg) ops0).1

/-! ## the hypotheses hold -/

/-- the copies above are the witness database; the evaluations below start from its CSV state in closed form
    (`rw [sCsv_eq, Witness.sCsv_val]`) -/
theorem csvCfg_eq : csvCfg = Witness.csvCfg := rfl
theorem sCsv_eq : sCsv = Witness.sCsv := congrArg (fun cfg => (runM (init cfg) ops0).1) csvCfg_eq
theorem sMem_eq : sMem = Witness.sMem := rfl

theorem witness_csv_norm_not_id : ¬ Good csvCfg ⟨10, "m1", [("a", some "_none")], []⟩ :=
  csvCfg_eq ▸ Witness.csv_norm_not_id

theorem witness_inv_csv : Inv sCsv := sCsv_eq ▸ Witness.inv_csv
theorem witness_inv_mem : Inv sMem := sMem_eq ▸ Witness.inv_mem

theorem witness_state_csv :
    sCsv.storage = [p1, p2, p3] ∧ sCsv.storage.length = 3 ∧ sCsv.index.valid = true ∧
    sCsv.index.numItems = 3 ∧ sCsv.index.ts = [10, 20, 20] ∧ sCsv.index.pos = [0, 1, 2] ∧
    sCsv.cfg.autoIndex = true := sCsv_eq ▸ Witness.state_csv
theorem witness_state_mem :
    sMem.storage = [p1, p2, p3] ∧ sMem.storage.length = 3 ∧ sMem.index.valid = false ∧
    sMem.cfg.autoIndex = false := sMem_eq ▸ Witness.state_mem
theorem witness_rep_csv : Represents sCsv.index sCsv.storage := sCsv_eq ▸ Witness.rep_csv

theorem mOK (s : String) (h : s ≠ "" := by decide) : (some s : Option String) ≠ some "" := Witness.mOK s h
theorem noneOK : (none : Option String) ≠ some "" := Witness.noneOK

/-! ## C06: the main theorems at these states -/

-- to let the kernel compare `Index.search` results, which live in `Except`
deriving instance DecidableEq for Except

/-- earlier than everything stored: inserting it is out of order -/
def p0 : Point := ⟨5, "m2", [("a", none)], [("g", some (.fin 1))]⟩
/-- later than everything stored -/
def p4 : Point := ⟨30, "m1", [("c", some "w")], []⟩

theorem witness_good_p0 : Good csvCfg p0 ∧ Good memCfg p0 := csvCfg_eq ▸ Witness.good_p0
theorem witness_good_p4 : Good csvCfg p4 ∧ Good memCfg p4 :=
  have h : Good Witness.csvCfg p4 := (Witness.good_csv_iff p4).mpr (by decide)
  ⟨csvCfg_eq ▸ h, h.1, rfl⟩

/-- `tag a == "y"`: matches `p2` -/
def qY : Query := .tag "a" (.cmp .eq (.str "y"))
/-- `~(tag a == "x")  |  time < 15` (exact, with a time leaf) -/
def qB : Query := .or (.not (.tag "a" (.cmp .eq (.str "x")))) (.time (.cmp .lt (.time 15)))
/-- `~(tag a == "x")  |  field g exists` (exact, no time leaf) -/
def qC : Query := .or (.not (.tag "a" (.cmp .eq (.str "x")))) (.field "g" .exists)

/-! ### `inv_reachable`: a history with an out-of-order `insert_multiple` that also raises (a non-Point
in second position), a removal, and a reindex -/
def ops6 : List Op := ops0 ++ [.insert [some p0, none] none, .remove qY none, .reindex]

theorem witness_opsOK6 (cfg : Cfg) (h0 : OpsOK cfg ops0) (hg : Good cfg p0) : OpsOK cfg ops6 := by
  simp [ops6, opsOK_append, opsOK_cons, opsOK_nil, OpOK, MeasOK, setMeas, effMeas, h0, hg]

def s6Csv : State := (runM (init csvCfg) ops6).1
def s6Mem : State := (runM (init memCfg) ops6).1

/-- the CSV history continues from the witness state, which the evaluations below need not build again -/
theorem s6Csv_val :
    s6Csv = (runM Witness.sCsvVal [.insert [some p0, none] none, .remove qY none, .reindex]).1 := by
  rw [s6Csv, csvCfg_eq, ops6, show ops0 = Witness.ops0 from rfl, (Witness.run_csv _).1]

-- (`rw` and not unfolding by the type checker, which would run the history to compare the two states)
theorem witness_inv6_csv : Inv s6Csv := by
  rw [s6Csv]
  exact inv_reachable csvCfg ops6 (witness_opsOK6 _ (csvCfg_eq ▸ Witness.opsOK_csv) witness_good_p0.1)
theorem witness_inv6_mem : Inv s6Mem := by
  rw [s6Mem]
  exact inv_reachable memCfg ops6 (witness_opsOK6 _ Witness.opsOK_mem witness_good_p0.2)
/-- what happened along the way: the third call raised after storing `p0` and invalidated the index, the
    removal rebuilt it (CSV, automatic) and took `p2` out; at the end both indexes are valid -/
theorem witness_history_value :
    (runM (init csvCfg) ops6).2 = [.nat 2, .nat 1, .err .type, .nat 1, .unit] ∧
    (runM (init memCfg) ops6).2 = [.nat 2, .nat 1, .err .type, .nat 1, .unit] ∧
    (runM (init csvCfg) (ops0 ++ [.insert [some p0, none] none])).1.index.valid = false ∧
    s6Csv.storage = [p1, p3, p0] ∧ s6Csv.index.valid = true ∧ s6Csv.index.numItems = 3 ∧
    s6Csv.index.measItems "m2" = [1, 2] ∧
    s6Mem.storage = [p1, p3, p0] ∧ s6Mem.index.valid = true ∧ s6Mem.index.numItems = 3 := by
  rw [s6Csv_val, csvCfg_eq, ops6, show ops0 = Witness.ops0 from rfl, (Witness.run_csv _).2, (Witness.run_csv _).1]
  decide +kernel
/-- so `Inv.rep` is not vacuous there -/
theorem witness_rep6 : Represents s6Csv.index s6Csv.storage ∧ Represents s6Mem.index s6Mem.storage :=
  ⟨witness_inv6_csv.rep witness_history_value.2.2.2.2.1, witness_inv6_mem.rep witness_history_value.2.2.2.2.2.2.2.2.1⟩

/-! ### `inv_reopen` -/
example : Inv (reopen s6Csv) := inv_reopen s6Csv witness_inv6_csv
example : Inv (reopen sMem) := inv_reopen sMem witness_inv_mem
theorem witness_reopen_value :
    (reopen s6Csv).index.valid = true ∧ (reopen s6Csv).storage = [p1, p3, p0] ∧
    (reopen sMem).index.valid = false ∧ (reopen sMem).storage = [p1, p2, p3] := by
  rw [s6Csv_val]
  decide +kernel

/-! ### `build_represents`, `search_answers_eq`, `getter_answers_eq`: the index grown insert by insert and
the one rebuilt from storage -/
theorem witness_wf : ∀ p ∈ sCsv.storage, WFPoint p := fun p hp => (witness_inv_csv.good p hp).1

example : Represents (Index.build sCsv.storage) sCsv.storage := build_represents sCsv.storage witness_wf
example : ∃ r r', sCsv.index.search qB = .ok r ∧ (Index.build sCsv.storage).search qB = .ok r' ∧ r.Perm r' :=
  search_answers_eq sCsv.index (Index.build sCsv.storage) sCsv.storage witness_rep_csv
    (build_represents sCsv.storage witness_wf) witness_wf qB (by decide)
example :
    sCsv.index.numItems = (Index.build sCsv.storage).numItems ∧
    sCsv.index.getMeasurements.Perm (Index.build sCsv.storage).getMeasurements ∧
    (sCsv.index.getTagKeys (some "m1")).Perm ((Index.build sCsv.storage).getTagKeys (some "m1")) ∧
    (sCsv.index.getFieldKeys (some "m1")).Perm ((Index.build sCsv.storage).getFieldKeys (some "m1")) ∧
    sCsv.index.getFieldValues "f" (some "m1") = (Index.build sCsv.storage).getFieldValues "f" (some "m1") ∧
    sCsv.index.getTimestamps (some "m1") = (Index.build sCsv.storage).getTimestamps (some "m1") ∧
    (∀ name, (sCsv.index.measItems name).length = ((Index.build sCsv.storage).measItems name).length) :=
  getter_answers_eq sCsv.index (Index.build sCsv.storage) sCsv.storage witness_rep_csv
    (build_represents sCsv.storage witness_wf) witness_wf "f" (some "m1")
theorem witness_index_answers_value :
    sCsv.index.search qB = .ok [1, 0] ∧ sCsv.index.search qC = .ok [1] ∧
    (Index.build sCsv.storage).search qC = .ok [1] ∧
    sCsv.index.getFieldValues "f" (some "m1") = [some (.fin 2), some (.fin 7)] ∧
    (Index.build sCsv.storage).getFieldValues "f" (some "m1") = [some (.fin 2), some (.fin 7)] ∧
    sCsv.index.getTagKeys (some "m1") = ["b", "a"] ∧ (Index.build sCsv.storage).getTagKeys (some "m1") = ["b", "a"] ∧
    sCsv.index.getMeasurements = ["m1", "m2"] := by
  rw [sCsv_eq, Witness.sCsv_val]
  decide +kernel

/-! ### `answers_eq_rebuild` at the state reached by the history above -/
example : ∃ r r', s6Csv.index.search qB = .ok r ∧ (Index.build s6Csv.storage).search qB = .ok r' ∧ r.Perm r' :=
  answers_eq_rebuild s6Csv witness_inv6_csv witness_history_value.2.2.2.2.1 qB (by decide)
example : ∃ r r', s6Mem.index.search qC = .ok r ∧ (Index.build s6Mem.storage).search qC = .ok r' ∧ r.Perm r' :=
  answers_eq_rebuild s6Mem witness_inv6_mem witness_history_value.2.2.2.2.2.2.2.2.1 qC (by decide)
theorem witness_rebuild_value :
    s6Csv.index.search qC = .ok [2] ∧ (Index.build s6Csv.storage).search qC = .ok [2] ∧
    s6Mem.index.search qC = .ok [2] := by
  rw [s6Csv_val]
  decide +kernel

/-! ### `inorder_insert_keeps_valid`, `out_of_order_only_invalidates` -/
theorem witness_opOK_insert (p : Point) (hg : Good csvCfg p) : OpOK sCsv.cfg (.insert [some p] none) :=
  fun _ hq => Option.some.inj (List.mem_singleton.mp hq) ▸ hg

/-- the order hypotheses are what separates the two: each fails for the other point -/
theorem witness_order_hyps :
    (∀ q ∈ sCsv.storage, q.time ≤ p4.time) ∧ ¬ (∀ q ∈ sCsv.storage, q.time ≤ p0.time) := by
  rw [witness_state_csv.1]
  decide

example : (sCsv.step (.insert [some p4] none)).1.index.valid = true :=
  inorder_insert_keeps_valid sCsv witness_inv_csv witness_state_csv.2.2.1 witness_state_csv.2.2.2.2.2.2
    p4 none (witness_opOK_insert p4 witness_good_p4.1) witness_order_hyps.1
example :
    (sCsv.step (.insert [some p0] none)).1.index.valid = false ∧
    (sCsv.step (.insert [some p0] none)).1.storage = sCsv.storage ++ [p0] :=
  out_of_order_only_invalidates sCsv witness_inv_csv witness_state_csv.2.2.1 witness_state_csv.2.2.2.2.2.2
    p0 (witness_opOK_insert p0 witness_good_p0.1) ⟨p1, by simp [witness_state_csv.1], by decide⟩
theorem witness_insert_value :
    (sCsv.step (.insert [some p4] none)).1.index.valid = true ∧
    (sCsv.step (.insert [some p4] none)).1.index.ts = [10, 20, 20, 30] ∧
    (sCsv.step (.insert [some p4] none)).1.index.pos = [0, 1, 2, 3] ∧
    (sCsv.step (.insert [some p4] none)).1.storage = [p1, p2, p3, p4] ∧
    (sCsv.step (.insert [some p0] none)).1.index.valid = false ∧
    (sCsv.step (.insert [some p0] none)).1.index.numItems = 0 ∧
    (sCsv.step (.insert [some p0] none)).1.storage = [p1, p2, p3, p0] := by
  rw [sCsv_eq, Witness.sCsv_val]
  decide +kernel

/-! ### `read_leaves_valid`: at the state after the out-of-order insert (index invalid) and at `sCsv` -/
def sOoo : State := (runM (init csvCfg) (ops0 ++ [.insert [some p0] none])).1

theorem witness_inv_ooo : Inv sOoo := by
  rw [sOoo]
  refine inv_reachable csvCfg _ (opsOK_append.mpr ⟨csvCfg_eq ▸ Witness.opsOK_csv, ?_⟩)
  simp [opsOK_cons, opsOK_nil, opOK_insert_none, MeasOK, witness_good_p0.1]

example : sOoo.readOp.index.valid = true ∧ (sOoo.index.valid = true → sOoo.readOp = sOoo) :=
  read_leaves_valid sOoo witness_inv_ooo (by decide +kernel)
example : sCsv.readOp = sCsv :=
  (read_leaves_valid sCsv witness_inv_csv witness_state_csv.2.2.2.2.2.2).2 witness_state_csv.2.2.1
theorem witness_readOp_value :
    sOoo.index.valid = false ∧ sOoo.storage = [p1, p2, p3, p0] ∧ sOoo.readOp.index.valid = true ∧
    sOoo.readOp.index.numItems = 4 ∧ sOoo.readOp.index.measItems "m2" = [2, 3] := by
  rw [sOoo, csvCfg_eq, show ops0 = Witness.ops0 from rfl, (Witness.run_csv _).1]
  decide +kernel

/-! ### `read_op_keeps_valid_index` -/
example : (sCsv.step (.count qB (some "m1"))).1.index = sCsv.index :=
  read_op_keeps_valid_index sCsv witness_inv_csv (.count qB (some "m1")) rfl (mOK "m1") witness_state_csv.2.2.1
example : (s6Mem.step (.getTagValues ["a"] none)).1.index = s6Mem.index :=
  read_op_keeps_valid_index s6Mem witness_inv6_mem (.getTagValues ["a"] none) rfl noneOK
    witness_history_value.2.2.2.2.2.2.2.2.1

end TinyFlux.Props.C06
