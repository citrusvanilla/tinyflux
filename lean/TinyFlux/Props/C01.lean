import TinyFlux.Lemmas.Refinement
import TinyFlux.Generated.IndexTables
/-!
# C01 — query results equal exactly the stored points that satisfy the query

For every state reachable by any history of operations (any length; in-order and out-of-order inserts,
updates, removes, reindex), every query (any nesting of `& | ~` over time / measurement / tag / field
comparisons, exists, regex, test, map, noop — user functions arbitrary), every measurement filter and
both configurations of `auto_index`; storage generic in `norm` (identity = MemoryStorage,
`deserialize ∘ serialize` = CSVStorage, with the stored points `Good`, i.e. unchanged by it — C05).
`Inv s` is what `Props/C06.lean` proves of every reachable state.
Guard: the measurement filter is not `""` (known finding `empty-measurement-name`).
-/
namespace TinyFlux.Props.C01
open TinyFlux.Spec TinyFlux.Model

theorem search_refines (s : State) (hs : Inv s) (q : Query) (m : Option String) (sorted : Bool) (hm : m ≠ some "") :
    (s.step (.search q m sorted)).2 = .points (Spec.search s.storage q m sorted) :=
  read_out_eq s hs (.search q m sorted) rfl hm nofun

theorem count_refines (s : State) (hs : Inv s) (q : Query) (m : Option String) (hm : m ≠ some "") :
    (s.step (.count q m)).2 = .nat (Spec.search s.storage q m false).length :=
  read_out_eq s hs (.count q m) rfl hm nofun

theorem contains_refines (s : State) (hs : Inv s) (q : Query) (m : Option String) (hm : m ≠ some "") :
    (s.step (.contains q m)).2 = .bool (!(Spec.search s.storage q m false).isEmpty) :=
  read_out_eq s hs (.contains q m) rfl hm nofun

theorem get_refines (s : State) (hs : Inv s) (q : Query) (m : Option String) (hm : m ≠ some "") :
    (s.step (.get q m)).2 = .point (Spec.search s.storage q m false).head? :=
  read_out_eq s hs (.get q m) rfl hm nofun

theorem select_refines (s : State) (hs : Inv s) (keys : List SelKey) (q : Query) (m : Option String) (hm : m ≠ some "") :
    (s.step (.select keys q m)).2 = .rows ((Spec.search s.storage q m false).map (project keys)) :=
  read_out_eq s hs (.select keys q m) rfl hm nofun

/-- the answer does not depend on whether it is served from the index or by scanning storage:
    two states with the same storage (one with a valid index, one without) answer alike -/
theorem index_path_eq_scan_path (s₁ s₂ : State) (h₁ : Inv s₁) (h₂ : Inv s₂) (hst : s₁.storage = s₂.storage)
    (q : Query) (m : Option String) (sorted : Bool) (hm : m ≠ some "") :
    (s₁.step (.search q m sorted)).2 = (s₂.step (.search q m sorted)).2 ∧
    (s₁.step (.count q m)).2 = (s₂.step (.count q m)).2 := by
  rw [search_refines s₁ h₁ q m sorted hm, search_refines s₂ h₂ q m sorted hm,
    count_refines s₁ h₁ q m hm, count_refines s₂ h₂ q m hm, hst]
  exact ⟨rfl, rfl⟩

/-- exactly the stored points on which the query is true — a sublist of storage, so no extra, duplicated
    or substituted point, in insertion order -/
theorem unsorted_is_insertion_order (db : DB) (q : Query) (m : Option String) :
    (Spec.search db q m false).Sublist db ∧
    ∀ p, p ∈ Spec.search db q m false ↔ p ∈ db ∧ selected q m p = true := by
  simp only [Spec.search, Bool.false_eq_true, if_false]
  exact ⟨List.filter_sublist, fun p => List.mem_filter⟩

/-- sorted results are the same multiset, in non-decreasing time order, ties in insertion order -/
theorem sorted_is_stable_time_order (db : DB) (q : Query) (m : Option String) :
    (Spec.search db q m true).Perm (Spec.search db q m false) ∧
    (Spec.search db q m true).Pairwise (fun a b => a.time ≤ b.time) ∧
    ∀ t, ((Spec.search db q m true).filter (fun p => p.time == t)) =
         ((Spec.search db q m false).filter (fun p => p.time == t)) := by
  simp only [Spec.search, Bool.false_eq_true, if_false, if_true]
  exact ⟨byTime_perm _, byTime_sorted _, byTime_filter_time _⟩

/-- all of the above after any history from the empty database -/
theorem after_any_history (cfg : Cfg) (ops : List Op) (hok : OpsOK cfg ops) (q : Query) (m : Option String)
    (sorted : Bool) (hm : m ≠ some "") :
    ((runM (init cfg) ops).1.step (.search q m sorted)).2 = .points (Spec.search (runS [] ops).1 q m sorted) := by
  obtain ⟨hinv, hst, _⟩ := reachable cfg ops hok
  rw [search_refines _ hinv q m sorted hm, hst]

/-! ## the hand-written model of the time search still mirrors the source

`Model.Index.searchTs` was written against the operator → (helper, slice) table of
`Index._search_timestamps` and the set algebra of `IndexResult`; both are regenerated from `index.py` on
every run, and these equalities are re-checked by the kernel: an edit to a helper name, a slice bound or a
set operation in the source breaks them (and `searchTs_spec` is a theorem about the model as written). The tables hold
source text: renaming `rhs`, `op`, `match` or `results`, or reordering the assignments before the `if` chain, breaks them
as well although nothing behaves differently — the expected strings below are then what has to follow. -/

theorem model_mirrors_ts_branch_table :
    Generated.tsBranch =
      [("eq", "find_eq", "results", "set([])"),
       ("ne", "find_eq", "set(self._storage_pos_sorted_by_ts).difference(results)", "set(self._storage_pos_sorted_by_ts)"),
       ("lt", "find_lt", "set(self._storage_pos_sorted_by_ts[:match + 1])", "set([])"),
       ("le", "find_le", "set(self._storage_pos_sorted_by_ts[:match + 1])", "set([])"),
       ("gt", "find_gt", "set(self._storage_pos_sorted_by_ts[match:])", "set([])"),
       ("ge", "find_ge", "set(self._storage_pos_sorted_by_ts[match:])", "set([])")] ∧
    Generated.tsHasGenericBranch = true ∧
    Generated.tsOpSelection = ["op = query._operator if query.is_hashable() else None", "rhs = query._rhs",
      -- (repaired) the bisection branches are for comparisons with an aware datetime only — the Model's `cmp` leaves
      -- over instants; `test` leaves, `None` and naive values take the generic branch
      "op = op if isinstance(rhs, datetime) and rhs.tzinfo else None"] := by
  refine ⟨rfl, rfl, rfl⟩

theorem model_mirrors_index_result_algebra :
    Generated.indexResultOps =
      [("__invert__", "set(range(self._index_count)).difference(self._items)", "self._index_count"),
       ("__and__", "self._items.intersection(other._items)", "self._index_count"),
       ("__or__", "self._items.union(other._items)", "self._index_count")] := rfl

/-! non-vacuity: a reachable state with an out-of-order history meets the hypotheses -/
example : OpsOK { autoIndex := true, norm := id }
    [.insert [some ⟨5, "m", [("a", some "x")], []⟩, some ⟨1, "n", [], [("f", some (.fin 2))]⟩] none,
     .remove (.time (.cmp .lt (.time 3))) none] := by
  intro op hop
  simp only [List.mem_cons, List.not_mem_nil, or_false] at hop
  rcases hop with rfl | rfl
  · refine ⟨?_, nofun⟩
    intro p hp
    simp only [List.mem_cons, Option.some.injEq, List.not_mem_nil, or_false] at hp
    rcases hp with rfl | rfl <;> simp [Good, WFPoint, setMeas, effMeas]
  · exact ⟨trivial, nofun⟩

end TinyFlux.Props.C01
