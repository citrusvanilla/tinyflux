import TinyFlux.Lemmas.Refinement
/-!
# C02 — remove deletes exactly the matching points and nothing else

For every state satisfying the invariant (every reachable state, `Props/C06.lean`), every query and
measurement filter. "All operations that follow" are covered because the resulting state again
satisfies the invariant and holds exactly the Spec's contents, so every theorem of C01/C07 applies.
Guard: the measurement argument is not `""` (known finding `empty-measurement-name`).
-/
namespace TinyFlux.Props.C02
open TinyFlux.Spec TinyFlux.Model

/-- `remove(query, measurement)`: the survivors are the non-selected points, unmodified and in their
    original relative order; the call returns the number of selected points; the invariant is kept -/
theorem remove_refines (s : State) (hs : Inv s) (q : Query) (m : Option String) (hm : m ≠ some "") :
    (s.step (.remove q m)).1.storage = s.storage.filter (fun p => !selected q m p) ∧
    (s.step (.remove q m)).2 = .nat (s.storage.filter (selected q m)).length ∧
    Inv (s.step (.remove q m)).1 := by
  obtain ⟨a, b, _, d⟩ := Writes.remove_refines s hs q m hm
  refine ⟨by rw [b]; rfl, ?_, d⟩
  rw [a]
  simp [Spec.step, Spec.remove, Spec.count, Spec.search]

/-- `drop_measurement(name)` removes exactly the points of that measurement -/
theorem drop_refines (s : State) (hs : Inv s) (name : String) (hn : name ≠ "") :
    (s.step (.drop name)).1.storage = s.storage.filter (fun p => p.meas != name) ∧
    (s.step (.drop name)).2 = .nat (s.storage.filter (fun p => p.meas == name)).length ∧
    Inv (s.step (.drop name)).1 := by
  -- the model drops by removing with the measurement query under that measurement
  have hsel : selected (.meas (.cmp .eq (.str name))) (some name) = fun p => p.meas == name :=
    funext (selected_measEq_some name)
  have h := remove_refines s hs (.meas (.cmp .eq (.str name))) (some name) (by simpa using hn)
  rw [hsel] at h
  exact h

theorem removeAll_refines (s : State) (hs : Inv s) :
    (s.step .removeAll).1.storage = [] ∧ Inv (s.step .removeAll).1 := by
  obtain ⟨_, b, _, d⟩ := Writes.removeAll_refines s hs
  exact ⟨by rw [b]; rfl, d⟩

/-- a removal that matches nothing changes nothing and reports 0 -/
theorem remove_nothing_is_identity (s : State) (hs : Inv s) (q : Query) (m : Option String) (hm : m ≠ some "")
    (hnone : ∀ p ∈ s.storage, selected q m p = false) :
    (s.step (.remove q m)).1.storage = s.storage ∧ (s.step (.remove q m)).2 = .nat 0 := by
  obtain ⟨a, b, _⟩ := remove_refines s hs q m hm
  rw [a, b]
  constructor
  · rw [List.filter_eq_self]
    intro p hp; simp [hnone p hp]
  · have : s.storage.filter (selected q m) = [] := by
      rw [List.filter_eq_nil_iff]
      intro p hp; simp [hnone p hp]
    rw [this]; rfl

/-- every other point is still present, unmodified, in its original relative order -/
theorem survivors_sublist (s : State) (hs : Inv s) (q : Query) (m : Option String) (hm : m ≠ some "") :
    (s.step (.remove q m)).1.storage.Sublist s.storage ∧
    ∀ p ∈ s.storage, selected q m p = false → p ∈ (s.step (.remove q m)).1.storage := by
  obtain ⟨a, _, _⟩ := remove_refines s hs q m hm
  rw [a]
  refine ⟨List.filter_sublist, fun p hp hsel => ?_⟩
  rw [List.mem_filter]
  exact ⟨hp, by simp [hsel]⟩

/-- and every read that follows the removal sees exactly the Spec's database -/
theorem reads_after_remove (s : State) (hs : Inv s) (q q' : Query) (m m' : Option String) (sorted : Bool)
    (hm : m ≠ some "") (hm' : m' ≠ some "") :
    ((s.step (.remove q m)).1.step (.search q' m' sorted)).2 =
      .points (Spec.search (s.storage.filter (fun p => !selected q m p)) q' m' sorted) := by
  obtain ⟨a, _, c⟩ := remove_refines s hs q m hm
  rw [read_out_eq _ c (.search q' m' sorted) rfl hm' nofun, a]
  rfl

end TinyFlux.Props.C02
