import TinyFlux.Footprint.Queries
import TinyFlux.Generated.CallGraph
import TinyFlux.Model.CallGraph

/-! # C17: the state the code keeps is the state the Model has (queries)

Over `Generated/Footprint.lean` (regenerated from the source on every run). A cache, a memo table or a flag added
to one of these classes or modules is state no theorem of this property covers: these stop checking. -/
namespace TinyFlux.Props.C17
open TinyFlux

/-- every attribute the query classes assign is a component of the Model's query / hash -/
theorem state_is_the_models_state :
    Model.Footprint.pick Generated.classState (Model.Footprint.queries.map (·.1)) = Model.Footprint.queries :=
  Footprint.queries

/-- no module-level variable, caching decorator, `global`/`nonlocal` or mutable default argument beyond the
    modelled ones; no class the Model does not know -/
theorem no_hidden_state :
    Generated.moduleState.lookup "queries" = Model.Footprint.modules.lookup "queries" ∧
    Generated.classState.map (·.1) = Model.Footprint.classNames := ⟨rfl, rfl⟩

/-- every function of these classes / modules calls, catches and raises exactly what it did when the Model was
    written against it and validated (`Model/CallGraph.lean`); and there is no table the Model does not know -/
theorem code_uses_the_modelled_primitives :
    Generated.calls_queries_CompoundQuery = Model.CallGraph.calls_queries_CompoundQuery ∧
    Generated.calls_queries_SimpleQuery = Model.CallGraph.calls_queries_SimpleQuery ∧
    Generated.calls_queries_BaseQuery = Model.CallGraph.calls_queries_BaseQuery ∧
    Generated.calls_queries_TagQuery = Model.CallGraph.calls_queries_TagQuery ∧
    Generated.calls_queries_FieldQuery = Model.CallGraph.calls_queries_FieldQuery ∧
    Generated.calls_queries_MeasurementQuery = Model.CallGraph.calls_queries_MeasurementQuery ∧
    Generated.calls_queries_TimeQuery = Model.CallGraph.calls_queries_TimeQuery ∧
    Generated.calls_queries_toplevel = Model.CallGraph.calls_queries_toplevel ∧
    Generated.callGraphTables = Model.CallGraph.callGraphTables := ⟨rfl, rfl, rfl, rfl, rfl, rfl, rfl, rfl, rfl⟩

end TinyFlux.Props.C17
