import TinyFlux.Mirror.Search
import TinyFlux.Mirror.Ops
import TinyFlux.Mirror.DbCount
import TinyFlux.Mirror.Closed
import TinyFlux.Mirror.DbSearch
import TinyFlux.Mirror.DbGet
/-!
# C01 over the translated source: the searches of `tinyflux/index.py` and the read methods of `TinyFlux` (database.py)

`Index._search_measurement`, `_search_tags`, `_search_fields` as translated (`Generated/IndexImpl.lean`) return, for the query
object of any Model leaf query and any dict-shaped index state, the same set of positions as the Model's `searchMeas /
searchTags / searchFields` on the `abs`-read state — and, by `Lemmas/Search` (L2, `search_selects`), on an index that represents the storage
those are exactly the positions of the points that satisfy the leaf. So do `_search_timestamps` (over the translated `find_*`
helpers) and `_search_helper` / `Index.search`, and `TinyFlux.count` / `contains` / `search` / `get` of database.py over them
(`Mirror/Closed.lean`).
-/
namespace TinyFlux.Props.C01
open TinyFlux.Spec TinyFlux.Model TinyFlux.Mirror TinyFlux.Generated

theorem translated_search_measurement (g : GSelf) (hg : GWF g) (l : Leaf) :
    ∃ r r', IndexImpl._search_measurement g (measQuery l) = .ok r ∧ (Mirror.abs g).searchMeas l = .ok r' ∧ SameSet r r' :=
  search_measurement_ok g hg l

theorem translated_search_tags (g : GSelf) (hg : GWF g) (k : String) (l : Leaf) :
    ∃ r r', IndexImpl._search_tags g (tagQuery k l) = .ok r ∧ (Mirror.abs g).searchTags k l = .ok r' ∧ SameSet r r' :=
  search_tags_ok g hg k l

theorem translated_search_fields (g : GSelf) (hg : GWF g) (k : String) (l : Leaf) :
    ∃ r r', IndexImpl._search_fields g (fieldQuery k l) = .ok r ∧ (Mirror.abs g).searchFields k l = .ok r' ∧ SameSet r r' :=
  search_fields_ok g hg k l

/-- non-vacuity: on the index the translated `build` produces for two concrete points, the translated tag search for
    `k == "v"` does not raise -/
example : ∃ g' r r', IndexImpl.build (IndexImpl.__init__ true)
      [{ time := 5, meas := "a", tags := [("k", some "v")], fields := [] },
       { time := 3, meas := "b", tags := [("k", some "w")], fields := [("f", none)] }] = .ok g'
    ∧ IndexImpl._search_tags g' (tagQuery "k" (.cmp .eq (.str "v"))) = .ok r
    ∧ (Mirror.abs g').searchTags "k" (.cmp .eq (.str "v")) = .ok r' ∧ SameSet r r' := by
  obtain ⟨g', h1, h2, _⟩ := build_ok (IndexImpl.__init__ true)
      [{ time := 5, meas := "a", tags := [("k", some "v")], fields := [] },
       { time := 3, meas := "b", tags := [("k", some "w")], fields := [("f", none)] }]
  obtain ⟨r, r', a, b, c⟩ := translated_search_tags g' h2 "k" (.cmp .eq (.str "v"))
  exact ⟨g', r, r', h1, a, b, c⟩

/-- `TinyFlux.count` of database.py as translated (`Generated/DatabaseImpl.lean`): on every state it returns what the Model's
    `step` computes for `.count` (index path: the number of positions `Index.search` returns; scan path: the number of rows that
    pass the measurement filter and the query), errors included -/
theorem translated_count (norm : Point → Point) (g : DSelf) (q : Query) (m : Option String) :
    DatabaseImpl.count modelExt g q m = liftE (modelCount (absDB norm g) q m) :=
  count_ok norm g q m

/-- `TinyFlux.contains` as translated (it leaves its scan loop at the first match) -/
theorem translated_contains (norm : Point → Point) (g : DSelf) (q : Query) (m : Option String) (b : Bool)
    (h : modelContains (absDB norm g) q m = .ok b) :
    DatabaseImpl.contains modelExt g q m = .ok b :=
  contains_ok norm g q m b h

/-- `modelCount` / `modelContains` are what `State.step` answers -/
theorem model_count_is_step (s : State) (q : Query) (m : Option String) :
    (s.step (.count q m)).2 = State.outOf (modelCount s.readOp q m) (fun n => .nat n)
    ∧ (s.step (.contains q m)).2 = State.outOf (modelContains s.readOp q m) (fun b => .bool b) :=
  Mirror.model_count_is_step s q m

/-- `Index._search_timestamps` as translated: operator selection, the six bisection branches over the translated `find_*`
    helpers (with the scan of the run of equal timestamps), the generic branch — the Model's `searchTs`, as a set -/
theorem translated_search_timestamps (g : GSelf) (hlen : g._timestamps.length = g._storage_pos_sorted_by_ts.length) (l : Leaf) :
    match (Mirror.abs g).searchTs l with
    | .ok r' => ∃ r, IndexImpl._search_timestamps g (timeQuery l) = .ok r ∧ SameSet r r'
    | .error _ => ∃ e, IndexImpl._search_timestamps g (timeQuery l) = .error e :=
  search_timestamps_ok g hlen l

/-- `Index.search` as translated (`_search_helper`: the recursion over `& | ~`, `~FieldQuery` = every item, the dispatch
    on the point attribute; `IndexResult.__and__/__or__/__invert__`): the Model's `Index.search`, as a set, for every query -/
theorem translated_index_search (g : GSelf) (hg : GWF g) (hlen : g._timestamps.length = g._storage_pos_sorted_by_ts.length)
    (q : Query) :
    match (Mirror.abs g).search q with
    | .ok r' => ∃ r, IndexImpl.search g (queryObj q) = .ok r ∧ SameSet r._items r' ∧ r._index_count = g._num_items
    | .error _ => ∃ e, IndexImpl.search g (queryObj q) = .error e :=
  search_ok g hg hlen q

/-- `TinyFlux.count` / `contains` as translated, over the *translated* `Index.search` (`translatedExt`): every method a
    count runs through — count, Index.search, _search_helper, the four leaf searches, find_* — is generated code, and the answer is
    the Model's -/
theorem translated_count_closed (norm : Point → Point) (g : DSelf) (q : Query) (m : Option String)
    (hg : GWF g._index) (hts : g._index._timestamps.length = g._index._storage_pos_sorted_by_ts.length) :
    match modelCount (absDB norm g) q m with
    | .ok n => DatabaseImpl.count translatedExt g q m = .ok n
    | .error _ => ∃ e', DatabaseImpl.count translatedExt g q m = .error e' :=
  count_closed norm g q m hg hts

theorem translated_contains_closed (norm : Point → Point) (g : DSelf) (q : Query) (m : Option String) (b : Bool)
    (hg : GWF g._index) (hts : g._index._timestamps.length = g._index._storage_pos_sorted_by_ts.length)
    (h : modelContains (absDB norm g) q m = .ok b) :
    DatabaseImpl.contains translatedExt g q m = .ok b :=
  contains_closed norm g q m b hg hts h

/-- `TinyFlux.search` of database.py as translated (the type check of the query, which every Model `Query` passes, so that its
    `raise` is not exercised; index path with the fall-back to a scan when every position matches and the early exit once all
    positions are seen, scan path, the time check, the stable sort by time):
    on every state what the Model's `step` computes for `.search` (`model_search_is_the_models_step`), errors included — which
    `search_refines` (Props/C01.lean) proves to be exactly the stored points that satisfy the query -/
theorem translated_search (norm : Point → Point) (g : DSelf) (q : Query) (m : Option String) (sorted : Bool) :
    DatabaseImpl.search modelExt g q m sorted = liftE (modelSearch (absDB norm g) q m sorted) :=
  db_search_ok norm g q m sorted

/-- … and over the translated `Index.search`: generated code from `TinyFlux.search` down to `find_*` -/
theorem translated_search_closed (norm : Point → Point) (g : DSelf) (q : Query) (m : Option String) (sorted : Bool)
    (hg : GWF g._index) (hts : g._index._timestamps.length = g._index._storage_pos_sorted_by_ts.length) :
    match modelSearch (absDB norm g) q m sorted with
    | .ok l => DatabaseImpl.search translatedExt g q m sorted = .ok l
    | .error _ => ∃ e', DatabaseImpl.search translatedExt g q m sorted = .error e' :=
  db_search_closed norm g q m sorted hg hts

theorem model_search_is_the_models_step (s : State) (q : Query) (m : Option String) (sorted : Bool) :
    (s.step (.search q m sorted)).2 = State.outOf (modelSearch s.readOp q m sorted) (fun l => .points l) :=
  model_search_is_step s q m sorted

/-- `TinyFlux.get` of database.py as translated (it leaves its loop at the first point found; `None` when there is none):
    the first element of what the Model's `found` computes (`model_get_is_the_models_step`), whenever the Model's evaluation
    does not raise on a later row — over the Model's and over the translated `Index.search` -/
theorem translated_get (norm : Point → Point) (g : DSelf) (q : Query) (m : Option String) (r : Option Point)
    (h : modelGet (absDB norm g) q m = .ok r) :
    DatabaseImpl.get modelExt g q m = .ok r :=
  db_get_ok norm g q m r h

theorem translated_get_closed (norm : Point → Point) (g : DSelf) (q : Query) (m : Option String) (r : Option Point)
    (hg : GWF g._index) (hts : g._index._timestamps.length = g._index._storage_pos_sorted_by_ts.length)
    (h : modelGet (absDB norm g) q m = .ok r) :
    DatabaseImpl.get translatedExt g q m = .ok r :=
  db_get_closed norm g q m r hg hts h

theorem model_get_is_the_models_step (s : State) (q : Query) (m : Option String) :
    (s.step (.get q m)).2 = State.outOf (modelGet s.readOp q m) (fun p => .point p) :=
  model_get_is_step s q m

end TinyFlux.Props.C01
