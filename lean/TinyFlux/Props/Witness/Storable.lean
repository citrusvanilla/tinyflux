import TinyFlux.Lemmas.Storable
import TinyFlux.Model.Codec
import TinyFlux.Lemmas.CodecLemmas
/-!
# The two configurations of the witness database, and what the CSV one stores faithfully

`memCfg`: `MemoryStorage` (`norm = id`). `csvCfg`: `CSVStorage`; `norm` is the row round trip `deserialize ∘ serialize` of
`Model/Codec.lean` over a concrete codec pair (`wfc`, `wtc`: any lawful pair will do, these two are small enough for the
kernel to run); a row that does not decode would come back as the junk point. `OpOK` of an update quantifies over *every*
storable point, so evaluating the codec on the stored points is not enough: the pair is shown lawful for all values, which
makes `Good csvCfg` the predicate "dict-shaped, no tag value `"_none"`" (`good_csv_iff`) and an update admissible in both
configurations as soon as its `tags` callable never returns the sentinel text (`opOK_update`).
-/
namespace TinyFlux.Props.Witness
open TinyFlux.Spec TinyFlux.Model TinyFlux.Lemmas.CodecLemmas

/-- text of a rational: sign letter, numerator in unary, `/`, denominator in unary (never a digit string) -/
def encQ (q : Rat) : Codec.Str :=
  (if q.num < 0 then 'm' else 'q') :: (List.replicate q.num.natAbs 'i' ++ '/' :: List.replicate q.den 'i')

def wfc : Codec.FieldCodec where
  repr
    | .ninf => ['n'] | .pinf => ['p'] | .fin q => encQ q
  parse
    | ['n'] => some .ninf
    | ['p'] => some .pinf
    | 'q' :: r => some (.fin (mkRat (r.takeWhile (· == 'i')).length ((r.dropWhile (· == 'i')).drop 1).length))
    | 'm' :: r => some (.fin (mkRat (-((r.takeWhile (· == 'i')).length : Int)) ((r.dropWhile (· == 'i')).drop 1).length))
    | _ => none

def wtc : Codec.TimeCodec where
  iso | .ofNat n => 'T' :: List.replicate n 'i' | .negSucc n => 'U' :: List.replicate n 'i'
  fromIso | 'T' :: r => some (Int.ofNat r.length) | 'U' :: r => some (Int.negSucc r.length) | _ => none

def csvNorm (p : Point) : Point :=
  match Codec.deserialize wfc wtc (Codec.serialize wfc wtc false p) with
  | some q => q
  | none => ⟨0, "", [], []⟩

def csvCfg : Cfg := { autoIndex := true, norm := csvNorm }
def memCfg : Cfg := { autoIndex := false, norm := id }

theorem wtc_law (t : Int) : wtc.fromIso (wtc.iso t) = some t := by
  cases t with
  | ofNat n => exact congrArg (fun k => some (Int.ofNat k)) List.length_replicate
  | negSucc n => exact congrArg (fun k => some (Int.negSucc k)) List.length_replicate

theorem wfc_parse_q (r : Codec.Str) :
    wfc.parse ('q' :: r) =
      some (.fin (mkRat (r.takeWhile (· == 'i')).length ((r.dropWhile (· == 'i')).drop 1).length)) := rfl
theorem wfc_parse_m (r : Codec.Str) :
    wfc.parse ('m' :: r) =
      some (.fin (mkRat (-((r.takeWhile (· == 'i')).length : Int)) ((r.dropWhile (· == 'i')).drop 1).length)) := rfl

theorem unary_lengths (n d : Nat) :
    let r := List.replicate n 'i' ++ '/' :: List.replicate d 'i'
    (r.takeWhile (· == 'i')).length = n ∧ ((r.dropWhile (· == 'i')).drop 1).length = d := by
  simp [List.takeWhile_append_of_pos, List.dropWhile_append_of_pos]

theorem wfc_parse_repr (n : Num) : wfc.parse (wfc.repr n) = some n := by
  cases n with
  | ninf => rfl
  | pinf => rfl
  | fin q =>
    have ⟨h1, h2⟩ := unary_lengths q.num.natAbs q.den
    show wfc.parse (encQ q) = _
    unfold encQ
    split
    · rw [wfc_parse_m, h1, h2, show -(q.num.natAbs : Int) = q.num by omega, Rat.mkRat_self]
    · rw [wfc_parse_q, h1, h2, show (q.num.natAbs : Int) = q.num by omega, Rat.mkRat_self]

theorem shape_of_head {c : Char} (r : Codec.Str) (hd : c.isDigit = false) (hm : c ≠ '-') :
    c :: r ≠ [] ∧ Codec.isDigits (c :: r) = false ∧ ¬ ∃ t, c :: r = '-' :: t ∧ Codec.isDigits t = true :=
  ⟨List.cons_ne_nil _ _, by simp [Codec.isDigits, hd], fun ⟨_, h, _⟩ => hm (List.cons.inj h).1⟩

theorem wfc_shape (n : Num) : wfc.repr n ≠ [] ∧ Codec.isDigits (wfc.repr n) = false ∧
    ¬ (∃ t, wfc.repr n = '-' :: t ∧ Codec.isDigits t = true) := by
  cases n with
  | ninf => exact shape_of_head _ (by decide) (by decide)
  | pinf => exact shape_of_head _ (by decide) (by decide)
  | fin q => exact shape_of_head _ (by split <;> decide) (by split <;> decide)

theorem wfc_sentinel : Codec.SentinelNotNumber wfc := by
  rw [Codec.SentinelNotNumber, noneS_eq]
  rfl

theorem csvNorm_eq (p : Point) (hp : WFPoint p) : csvNorm p = scrubTags p := by
  unfold csvNorm
  rw [deserialize_serialize_scrub wfc wtc false p (wtc_law _) nofun hp.1 hp.2 fun kv _ =>
    decodeField_fieldValCell wfc wfc_sentinel _ fun n _ => ⟨wfc_parse_repr n, wfc_shape n⟩]

theorem good_csv_iff (p : Point) :
    Good csvCfg p ↔ WFPoint p ∧ ∀ kv ∈ p.tags, kv.2 ≠ some Generated.noneStr :=
  and_congr_right fun hw => by rw [← scrubTags_eq_self, ← csvNorm_eq p hw]; rfl

/-- the round trip is not the identity: a tag value `"_none"` comes back as `None`, so not every point is `Good`
    for `csvCfg` -/
theorem csv_norm_not_id : ¬ Good csvCfg ⟨10, "m1", [("a", some "_none")], []⟩ :=
  fun h => ((good_csv_iff _).mp h).2 ("a", some "_none") (List.mem_singleton.mpr rfl) rfl

/-- the hypothesis is decidable (for concrete points: `by decide`); the measurement they are stored under plays no part -/
theorem opOK_insert (cfg : Cfg) (hcfg : cfg = csvCfg ∨ cfg = memCfg) (pts : List (Option Point)) (m : Option String)
    (h : ∀ p ∈ pts.filterMap id, WFPoint p ∧ ∀ kv ∈ p.tags, kv.2 ≠ some Generated.noneStr) :
    OpOK cfg (.insert pts m) := by
  intro p hp
  have hp : WFPoint (setMeas (effMeas m) p) ∧ ∀ kv ∈ (setMeas (effMeas m) p).tags, kv.2 ≠ some Generated.noneStr := by
    cases effMeas m <;> exact h p (List.mem_filterMap.mpr ⟨some p, hp, rfl⟩)
  rcases hcfg with rfl | rfl
  · exact (good_csv_iff _).mpr hp
  · exact (good_iff_of_norm_id rfl _).mpr hp.1

theorem opOK_update (cfg : Cfg) (hcfg : cfg = csvCfg ∨ cfg = memCfg) (all : Bool) (q : Query) (u : Upd)
    (m : Option String)
    (hu : ∀ f, u.tags = some f → ∀ tg new, (∀ kv ∈ tg, kv.2 ≠ some Generated.noneStr) → f tg = .ok new →
      ∀ kv ∈ new, kv.2 ≠ some Generated.noneStr) :
    OpOK cfg (.update all q u m) := by
  rcases hcfg with rfl | rfl
  · intro p p' hg h
    rw [good_csv_iff] at hg ⊢
    refine ⟨wfPoint_upd h hg.1, fun kv hkv => ?_⟩
    rcases mem_tags_of_upd h hkv with hkv | ⟨f, new, hf, hnew, hkv⟩
    · exact hg.2 kv hkv
    · exact hu f hf _ _ hg.2 hnew kv hkv
  · exact opOK_update_of_norm_id rfl all q u m

end TinyFlux.Props.Witness
