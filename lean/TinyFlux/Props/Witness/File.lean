import TinyFlux.Lemmas.Storable
import TinyFlux.Lemmas.IOOps
/-!
# The concrete instance behind the witnesses of the file properties (C04, C12, C13, C15, C16)

A file-backed database with auto-indexing (`norm := id`, see `cfg`) holding three points (reached from the empty database
by two `insert` calls), the file
state that goes with it, and concrete operations: a remove that removes one of the three points, an update that changes
one, an insert of two points, a count, a remove that matches nothing. The hypotheses of the end-to-end theorems (`Inv s`,
`FileOf s fs`, `OpOK`, `MeasOK`) are proved of it here. The five witness files define the same instance under their
property's names and take these facts over through `witness_s_eq : witness_s = s` (both sides unfold to the same term); a
statement that projects out of the state (`s.cfg`, `s.storage`) is rewritten with it (`witness_s_eq ▸ …`), since unifying
the two projections directly would evaluate the model run on both sides. The operations `insert`, `remove`, … are meant to
be used qualified (`Witness.File.insert`): opened together with `TinyFlux.Spec` they clash with `Spec.insert`, ….
-/
namespace TinyFlux.Props.Witness.File
open TinyFlux.Model TinyFlux.Model.IO TinyFlux.Spec

/-- file-backed storage that keeps points as they are (`norm := id`, what `Driver/ModelMain.lean` runs CSV storage
    with; the real row round trip is the `csvCfg` of `Witness/Storable.lean`), auto-indexing on -/
def cfg : Cfg := { autoIndex := true, norm := id }

def p1 : Point :=
  { time := 1000000, meas := "cpu", tags := [("host", some "a")], fields := [("load", some (.fin 1))] }
def p2 : Point :=
  { time := 2000000, meas := "cpu", tags := [("host", some "b")], fields := [("load", some (.fin (5/2)))] }
def p3 : Point :=
  { time := 3000000, meas := "mem", tags := [("host", some "a"), ("dc", none)], fields := [("free", none)] }
def p4 : Point :=
  { time := 4000000, meas := "cpu", tags := [("host", some "c")], fields := [("load", some (.fin 3))] }
def p5 : Point :=
  { time := 1500000, meas := "disk", tags := [], fields := [("used", some (.fin (-7)))] }

/-- the history that builds the state: two `insert` calls -/
def history : List Op := [.insert [some p1, some p2] none, .insert [some p3] none]

def s : State := (runM (init cfg) history).1

/-- the file that goes with it: the three rows, nothing buffered, no temp file, handle open at the end -/
def fs : FS Point := { primary := [p1, p2, p3] }

/-- `db.remove(TagQuery().host == "b")`: removes the second of the three points -/
def remove : Op := .remove (.tag "host" (.cmp .eq (.str "b"))) none
/-- the updater `fields={"load": v}` -/
def setLoad (v : Option Num) : Upd :=
  { time := none, meas := none, tags := none, fields := some (fun _ => .ok [("load", v)]),
    unsetTags := [], unsetFields := [] }
/-- `db.update(TagQuery().host == "b", fields={"load": 7})`: changes the second point -/
def update : Op := .update false (.tag "host" (.cmp .eq (.str "b"))) (setLoad (some (.fin 7))) none
/-- `db.insert_multiple([p4, p5])` (the second one out of time order) -/
def insert : Op := .insert [some p4, some p5] none
/-- `db.count(MeasurementQuery() == "cpu")` -/
def count : Op := .count (.meas (.cmp .eq (.str "cpu"))) none
/-- a remove that matches nothing -/
def remove0 : Op := .remove (.tag "host" (.cmp .eq (.str "zzz"))) none

theorem good_iff (p : Point) : Good cfg p ↔ WFPoint p := good_iff_of_norm_id rfl p

theorem history_ok : OpsOK cfg history := by
  simp [history, opsOK_cons, opsOK_nil, opOK_insert_none, MeasOK, good_iff, WFPoint, p1, p2, p3]

theorem inv : Inv s := (reachable cfg history history_ok).1

theorem s_cfg : s.cfg = cfg := (run_refines (init cfg) (init_inv cfg) history history_ok).2.2.1

theorem storage : s.storage = [p1, p2, p3] := rfl
theorem index_valid : s.index.valid = true := by decide +kernel
theorem index_nontrivial : s.index.numItems = 3 ∧ s.index.ts = [1000000, 2000000, 3000000] := by decide +kernel

theorem quiet : Quiet fs := ⟨rfl, rfl, rfl⟩
theorem fileOf : FileOf s fs := ⟨storage.symm, quiet⟩

theorem remove_ok : OpOK s.cfg remove ∧ MeasOK remove := ⟨trivial, by simp [MeasOK, remove]⟩
theorem remove0_ok : OpOK s.cfg remove0 ∧ MeasOK remove0 := ⟨trivial, by simp [MeasOK, remove0]⟩
theorem count_ok : OpOK s.cfg count ∧ MeasOK count := ⟨trivial, by simp [MeasOK, count]⟩

theorem insert_ok : OpOK s.cfg insert ∧ MeasOK insert := by
  rw [s_cfg]
  simp [insert, opOK_insert_none, MeasOK, good_iff, WFPoint, p4, p5]

theorem any_update_ok (all : Bool) (q : Query) (u : Upd) :
    OpOK s.cfg (.update all q u none) ∧ MeasOK (.update all q u none) :=
  ⟨opOK_update_of_norm_id (congrArg Cfg.norm s_cfg) all q u none, by simp [MeasOK]⟩

theorem update_ok : OpOK s.cfg update ∧ MeasOK update := any_update_ok _ _ _

/-- by index: 0 `T.create`, 1 `P.seek0`, 2 `P.read`, 3–7 stage `p1`, 8 `P.read` (`p2` dropped),
    9 `P.read`, 10–14 stage `p3`, 15 `P.read` (EOF), 16 `T.flush`, 17 `T.fsync`, 18 `P.close`, 19 `replace`,
    20 `P.open`, 21 `T.close` -/
theorem remove_steps : (opSteps s true remove).length = 22 := by decide +kernel

end TinyFlux.Props.Witness.File
