import TinyFlux.Props.Witness.Storable
import TinyFlux.Lemmas.Refinement
/-!
# The witness database

The non-vacuity witnesses of C01, C02, C03, C06, C07, C10 and C11 (`Props/C#Witness.lean`) instantiate their theorems at
the same three-point database under the two configurations of `Witness/Storable.lean`. Each of those files defines the
database under its own property's names and links its copies to the definitions here by `rfl`; what holds of the database
whatever the property (`Good`, `OpsOK`, `Inv`, the shape of the two states) is proved here, once. Under `memCfg` automatic
indexing is off, so every answer comes from the scan path over an invalid index; under `csvCfg` it is on.
-/
namespace TinyFlux.Props.Witness
open TinyFlux.Spec TinyFlux.Model

/-! ## three points in two measurements: a `None` tag value, a `None` field value, a non-integer field
value, and a tie in time (`p2`, `p3`) -/

def p1 : Point := ⟨10, "m1", [("a", some "x"), ("b", none)], [("f", some (.fin 2))]⟩
def p2 : Point := ⟨20, "m1", [("a", some "y")], [("f", some (.fin 7)), ("g", none)]⟩
def p3 : Point := ⟨20, "m2", [("a", some "x")], [("f", some (.fin (5 / 2)))]⟩

/-- the history that builds the state: an `insert_multiple`, then an `insert` -/
def ops0 : List Op := [.insert [some p1, some p2] none, .insert [some p3] none]

def sCsv : State := (runM (init csvCfg) ops0).1
def sMem : State := (runM (init memCfg) ops0).1

/-- a fourth point, earlier than everything stored: inserting it is out of order -/
def p0 : Point := ⟨5, "m2", [("a", none)], [("g", some (.fin 1))]⟩

/-! ## the hypotheses hold: `Good`, `OpsOK`, `Inv` -/

theorem good_csv : Good csvCfg p1 ∧ Good csvCfg p2 ∧ Good csvCfg p3 :=
  ⟨(good_csv_iff p1).mpr (by decide), (good_csv_iff p2).mpr (by decide), (good_csv_iff p3).mpr (by decide)⟩

theorem good_mem : Good memCfg p1 ∧ Good memCfg p2 ∧ Good memCfg p3 :=
  ⟨⟨good_csv.1.1, rfl⟩, ⟨good_csv.2.1.1, rfl⟩, ⟨good_csv.2.2.1, rfl⟩⟩

theorem good_p0 : Good csvCfg p0 ∧ Good memCfg p0 :=
  have h := (good_csv_iff p0).mpr (by decide)
  ⟨h, h.1, rfl⟩

theorem opsOK0 (cfg : Cfg) (h : Good cfg p1 ∧ Good cfg p2 ∧ Good cfg p3) : OpsOK cfg ops0 := by
  simp [ops0, opsOK_cons, opsOK_nil, opOK_insert_none, MeasOK, h]

theorem opsOK_csv : OpsOK csvCfg ops0 := opsOK0 _ good_csv
theorem opsOK_mem : OpsOK memCfg ops0 := opsOK0 _ good_mem

theorem inv_csv : Inv sCsv := (reachable csvCfg ops0 opsOK_csv).1
theorem inv_mem : Inv sMem := (reachable memCfg ops0 opsOK_mem).1

theorem cfg_csv : sCsv.cfg = csvCfg := (run_refines (init csvCfg) (init_inv csvCfg) ops0 opsOK_csv).2.2.1
theorem cfg_mem : sMem.cfg = memCfg := (run_refines (init memCfg) (init_inv memCfg) ops0 opsOK_mem).2.2.1

def sCsvVal : State :=
  { cfg := csvCfg, storage := [p1, p2, p3],
    index :=
      { numItems := 3, ts := [10, 20, 20], pos := [0, 1, 2],
        meas := [("m1", [(0, ()), (1, ())]), ("m2", [(2, ())])],
        tags := [(("a", some "x"), [(0, ()), (2, ())]), (("b", none), [(0, ())]), (("a", some "y"), [(1, ())])],
        fields := [("f", [(0, some (.fin 2)), (1, some (.fin 7)), (2, some (.fin (5 / 2)))]), ("g", [(1, none)])],
        valid := true } }

/-- `Index` has no decidable equality of its own: two indexes are compared field by field -/
theorem index_ext {a b : Index} (h1 : a.numItems = b.numItems) (h2 : a.ts = b.ts) (h3 : a.pos = b.pos)
    (h4 : a.meas = b.meas) (h5 : a.tags = b.tags) (h6 : a.fields = b.fields) (h7 : a.valid = b.valid) : a = b := by
  cases a
  cases b
  simp only [Index.mk.injEq]
  exact ⟨h1, h2, h3, h4, h5, h6, h7⟩

/-- The CSV state in closed form. Building it costs far more than any single operation on it (every insert
    sends the point through the codec), so the kernel runs the two inserts here, once, and the evaluations in
    the witness files start from the literal: `rw [sCsv_val]`, or `rw [(run_csv _).1]` for a longer history,
    before `decide +kernel`. (`Cfg` holds a function, so the configuration is not compared by evaluation.) -/
theorem run_ops0 : runM (init csvCfg) ops0 = (sCsvVal, [.nat 2, .nat 1]) := by
  have h : sCsv.storage = sCsvVal.storage ∧
      (sCsv.index.numItems = sCsvVal.index.numItems ∧ sCsv.index.ts = sCsvVal.index.ts ∧
        sCsv.index.pos = sCsvVal.index.pos ∧ sCsv.index.meas = sCsvVal.index.meas ∧
        sCsv.index.tags = sCsvVal.index.tags ∧ sCsv.index.fields = sCsvVal.index.fields ∧
        sCsv.index.valid = sCsvVal.index.valid) ∧
      (runM (init csvCfg) ops0).2 = [.nat 2, .nat 1] := by decide +kernel
  obtain ⟨hst, ⟨h1, h2, h3, h4, h5, h6, h7⟩, hout⟩ := h
  have hs : sCsv = sCsvVal := by
    rw [show sCsv = ⟨sCsv.cfg, sCsv.storage, sCsv.index⟩ from rfl, cfg_csv, hst, index_ext h1 h2 h3 h4 h5 h6 h7]
    rfl
  exact Prod.ext hs hout

theorem sCsv_val : sCsv = sCsvVal := congrArg Prod.fst run_ops0

theorem run_csv (ops : List Op) :
    (runM (init csvCfg) (ops0 ++ ops)).1 = (runM sCsvVal ops).1 ∧
    (runM (init csvCfg) (ops0 ++ ops)).2 = .nat 2 :: .nat 1 :: (runM sCsvVal ops).2 := by
  rw [runM_append, run_ops0]
  exact ⟨rfl, rfl⟩

/-- the states are not trivial: three stored points; the CSV state has a valid, populated index (so
    `Inv.rep` says something), the memory state an invalidated one (so answers come from scanning) -/
theorem state_csv :
    sCsv.storage = [p1, p2, p3] ∧ sCsv.storage.length = 3 ∧ sCsv.index.valid = true ∧
    sCsv.index.numItems = 3 ∧ sCsv.index.ts = [10, 20, 20] ∧ sCsv.index.pos = [0, 1, 2] ∧
    sCsv.cfg.autoIndex = true := by
  rw [sCsv_val]
  exact ⟨rfl, rfl, rfl, rfl, rfl, rfl, rfl⟩
theorem state_mem :
    sMem.storage = [p1, p2, p3] ∧ sMem.storage.length = 3 ∧ sMem.index.valid = false ∧
    sMem.cfg.autoIndex = false := by decide +kernel
theorem rep_csv : Represents sCsv.index sCsv.storage := inv_csv.rep state_csv.2.2.1

/-- no measurement filter used by the witnesses is the empty string -/
theorem mOK (s : String) (h : s ≠ "" := by decide) : (some s : Option String) ≠ some "" :=
  fun e => h (Option.some.inj e)
theorem noneOK : (none : Option String) ≠ some "" := nofun

end TinyFlux.Props.Witness
